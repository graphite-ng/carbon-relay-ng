import Crng.DQCrashMain
/-! The ghost fields of the disk-queue model in terms of the history: `pend`, `synced`, `dsince` are windows of the list of
    all records ever enqueued, at every crash point of every history. This is what turns `c08_crash_recovery` (stated with
    the ghost fields) into the statement of C08 about the enqueued messages themselves. -/
namespace Crng.DQ

/-- `g` describes a queue into which the records `E` have been written so far: `d` of them were handed to the consumer,
    the last completed metadata rename happened when `a` had been handed over and `b` had been written -/
def GI (g : Ghost) (E : List Rec) : Prop :=
  ∃ d a b, a ≤ d ∧ d ≤ E.length ∧ a ≤ b ∧ b ≤ E.length ∧
    g.pend = E.drop d ∧ g.synced = (E.take b).drop a ∧ g.dsince = d - a

/-- … and so does every crash snapshot logged so far, each for the prefix of `E` written by then -/
def HInv (s : St) (E : List Rec) : Prop :=
  GI s.g E ∧ ∀ e ∈ s.log, ∃ E', E' <+: E ∧ GI e.g E'

theorem HInv.of_entries {s s' : St} {E E' : List Rec} (h : HInv s E) (hE : E <+: E') (hg : GI s'.g E')
    (hl : ∀ e ∈ s'.log, e ∈ s.log ∨ e.g = s.g ∨ e.g = s'.g) : HInv s' E' := by
  refine ⟨hg, ?_⟩
  intro e he
  rcases hl e he with h1 | h1 | h1
  · obtain ⟨E'', hp, hgi⟩ := h.2 e h1
    exact ⟨E'', hp.trans hE, hgi⟩
  · exact ⟨E, hE, by rw [h1]; exact h.1⟩
  · exact ⟨E', List.prefix_refl _, by rw [h1]; exact hg⟩

theorem HInv.congr {s s' : St} {E : List Rec} (h : HInv s E) (hg : s'.g = s.g) (hl : s'.log = s.log) : HInv s' E := by
  unfold HInv at *; rw [hg, hl]; exact h

theorem gi_synced_now {g : Ghost} {E : List Rec} (h : GI g E) : GI { g with synced := g.pend, dsince := 0 } E := by
  obtain ⟨d, a, b, had, hd, hab, hb, hp, hs, hds⟩ := h
  refine ⟨d, d, E.length, Nat.le_refl _, hd, hd, Nat.le_refl _, hp, ?_, by simp⟩
  simp only [List.take_length]; exact hp

theorem sync_hinv {s : St} {E : List Rec} (h : HInv s E) : HInv (sync s) E := by
  rw [sync_eq]
  refine HInv.of_entries h (List.prefix_refl _) (gi_synced_now h.1) ?_
  intro e he
  simp only [syncLog, List.mem_cons, List.mem_append] at he
  rcases he with (rfl | rfl | rfl | he) | he
  · exact Or.inr (Or.inr rfl)
  · exact Or.inr (Or.inl rfl)
  · exact Or.inr (Or.inl rfl)
  · split at he
    · rw [List.mem_singleton.mp he]; exact Or.inr (Or.inl rfl)
    · cases he
  · exact Or.inl he

theorem gi_put {g : Ghost} {E : List Rec} (h : GI g E) (r : Rec) : GI { g with pend := g.pend ++ [r] } (E ++ [r]) := by
  obtain ⟨d, a, b, had, hd, hab, hb, hp, hs, hds⟩ := h
  refine ⟨d, a, b, had, by simp; omega, hab, by simp; omega, ?_, ?_, hds⟩
  · simp only [hp, List.drop_append_of_le_length hd]
  · simp only [hs, List.take_append_of_le_length hb]

theorem writeData_hinv {s : St} {E : List Rec} (h : HInv s E) (m : Bytes) : HInv (writeData s m) (E ++ [newRec s m]) := by
  rw [writeData_eq]
  refine HInv.of_entries h (List.prefix_append _ _) (gi_put h.1 _) (List.forall_mem_cons.mpr ⟨Or.inr (Or.inr rfl), ?_⟩)
  rcases openWrite_log s with hl | hl <;> rw [hl]
  · exact fun e he => Or.inl he
  · exact List.forall_mem_cons.mpr ⟨Or.inr (Or.inl rfl), fun e he => Or.inl he⟩

theorem writeOne_hinv {cfg : Cfg} {s : St} {E : List Rec} (h : HInv s E) (m : Bytes) :
    HInv (writeOne cfg s m) (E ++ [newRec s m]) := by
  have h3 := writeData_hinv h m
  rw [writeOne_eq]; split
  · exact HInv.congr (sync_hinv (HInv.congr (s' := rollState (writeData s m)) h3 rfl rfl)) rfl rfl
  · exact h3

theorem gi_get {g : Ghost} {E : List Rec} (h : GI g E) (hne : g.pend ≠ []) :
    GI { g with pend := g.pend.tail, dsince := g.dsince + 1 } E := by
  obtain ⟨d, a, b, had, hd, hab, hb, hp, hs, hds⟩ := h
  have hlt : d < E.length := Nat.lt_of_not_le fun h => hne (hp ▸ List.drop_eq_nil_of_le h)
  refine ⟨d + 1, a, b, by omega, by omega, hab, hb, ?_, hs, by simp only [hds]; omega⟩
  simp only [hp, List.tail_drop]

theorem checkTail_g_log (s : St) : (checkTail s).g = s.g ∧ (checkTail s).log = s.log := by
  unfold checkTail
  split
  · exact ⟨rfl, rfl⟩
  · simp only
    split <;> split <;> exact ⟨rfl, rfl⟩

theorem moveForward_hinv {s : St} {E : List Rec} (h : HInv s E) (hne : s.g.pend ≠ []) : HInv (moveForward s) E := by
  unfold moveForward
  simp only
  refine HInv.congr ?_ (checkTail_g_log _).1 (checkTail_g_log _).2
  split
  · exact HInv.of_entries h (List.prefix_refl _) (gi_get h.1 hne)
      (List.forall_mem_cons.mpr ⟨Or.inr (Or.inr rfl), fun e he => Or.inl he⟩)
  · exact HInv.of_entries h (List.prefix_refl _) (gi_get h.1 hne) (fun e he => Or.inl he)

theorem tickCount_hinv {cfg : Cfg} {s : St} {E : List Rec} (h : HInv s E) : HInv (tickCount cfg s) E :=
  tickCount_ind (P := fun t => HInv t E) (fun _ _ _ => h.congr rfl rfl) fun _ => sync_hinv

theorem loopTop_hinv {cfg : Cfg} {s : St} {recs E : List Rec} {fuel : Nat} (hf : 0 < fuel) (hi : Inv cfg s recs) (h : HInv s E) :
    HInv (loopTop cfg fuel s) E := by
  obtain ⟨o, d, p, e, _, _⟩ := loopTop_spec hf hi
  rw [e]
  exact (tickCount_hinv h).congr rfl rfl

/-- the messages of the `put` events of a history, in order -/
def putsOf : List Ev → List Bytes
  | [] => []
  | .put m :: es => m :: putsOf es
  | _ :: es => putsOf es

theorem putsOf_append (es : List Ev) (e : Ev) :
    putsOf (es ++ [e]) = putsOf es ++ (match e with | .put m => [m] | _ => []) := by
  induction es with
  | nil => cases e <;> simp [putsOf]
  | cons x xs ih => cases x <;> simp [putsOf, ih]

/-- one event: the history invariant moves on, the record list grows by exactly the message of a `put` -/
theorem step_hinv {cfg : Cfg} {s : St} {E : List Rec} (e : Ev) (hb : Bd cfg s) (hsm : smallEv e) (h : HInv s E) :
    ∃ E', HInv (stepEv cfg s e).1 E' ∧ E'.map (·.msg) = E.map (·.msg) ++ (match e with | .put m => [m] | _ => []) := by
  cases e with
  | put m =>
    refine ⟨E ++ [newRec s m], ?_, by simp [newRec]⟩
    exact loopTop_hinv (fuelOf_pos _) (writeOne_mid m hsm hb).inv (writeOne_hinv h m)
  | get =>
    refine ⟨E, ?_, by simp⟩
    cases hp : s.g.pend with
    | nil => rw [stepEv_get_nil (hp ▸ hb.mid.inv)]; exact h
    | cons r rs =>
      rw [stepEv_get_cons (r := r) (rs := rs) (hp ▸ hb.mid.inv)]
      exact loopTop_hinv (fuelOf_pos _) (moveForward_mid hb hp).inv (moveForward_hinv h (by rw [hp]; simp))
  | reopen =>
    refine ⟨E, ?_, by simp⟩
    -- close keeps it (`closeQ s` is the sync of `s` with its two open flags cleared), reloading the memory does not touch
    -- log and ghost, and the `loopTop` of `openQ` keeps it
    have hclose : HInv (closeQ s) E := sync_hinv (h.congr rfl rfl)
    exact loopTop_hinv (fuelOf_pos _) (reopen_mid hb).inv (hclose.congr rfl rfl)

theorem run_hinv {cfg : Cfg} : ∀ (es : List Ev) (s : St) (E : List Rec), Bd cfg s → (∀ e ∈ es, smallEv e) → HInv s E →
    ∃ E', HInv (runEvs cfg s es) E' ∧ E'.map (·.msg) = E.map (·.msg) ++ putsOf es := by
  intro es
  induction es with
  | nil => intro s E _ _ h; exact ⟨E, h, by simp [putsOf]⟩
  | cons e es ih =>
    intro s E hb hsm h
    have hsme := hsm e (List.mem_cons_self ..)
    obtain ⟨E1, h1, hm1⟩ := step_hinv e hb hsme h
    obtain ⟨E2, h2, hm2⟩ := ih _ E1 (step_bd e hb hsme) (fun e he => hsm e (List.mem_cons_of_mem _ he)) h1
    refine ⟨E2, h2, ?_⟩
    rw [hm2, hm1]
    cases e <;> simp [putsOf]

theorem fresh_hinv (cfg : Cfg) : HInv (openQ cfg {} []) [] := by
  have base : HInv ({ mem := loadMem {}, disk := {}, log := [], g := {} } : St) [] :=
    ⟨⟨0, 0, 0, by simp, by simp, by simp, by simp, rfl, rfl, rfl⟩, fun e he => by cases he⟩
  exact loopTop_hinv (fuelOf_pos _) (fresh_inv cfg) base

end Crng.DQ
