namespace Crng
abbrev Bytes := List UInt8

inductive Re where
  | empty | litA (b : UInt8) | wide | beginText | zeroWidth
  | cat (a b : Re) | alt (a b : Re) | star (a : Re) | opt (a : Re) | cap (a : Re)
  deriving Repr, DecidableEq

/-- `M r s i j` : `r` matches `s[i,j)` (over-approximation of RE2). -/
inductive M : Re → Bytes → Nat → Nat → Prop where
  | empty : M .empty s i i
  | litA : s[i]? = some b → M (.litA b) s i (i+1)
  | wide : i < j → j ≤ i + 4 → j ≤ s.length → M .wide s i j
  | beginText : M .beginText s 0 0
  | zeroWidth : M .zeroWidth s i i
  | cat : M a s i k → M b s k j → M (.cat a b) s i j
  | altL : M a s i j → M (.alt a b) s i j
  | altR : M b s i j → M (.alt a b) s i j
  | starNil : M (.star a) s i i
  | starCons : M a s i k → M (.star a) s k j → M (.star a) s i j
  | optNone : M (.opt a) s i i
  | optSome : M a s i j → M (.opt a) s i j
  | cap : M a s i j → M (.cap a) s i j

def Search (r : Re) (s : Bytes) : Prop := ∃ i j, M r s i j

/-- literal run that every match of `r` must start with -/
def leadingLits : Re → Bytes
  | .litA b => [b]
  | .cat (.litA b) r => b :: leadingLits r
  | .cat (.cap a) _ => leadingLits a
  | .cap a => leadingLits a
  | _ => []

def soundPrefix : Re → Bytes
  | .cat .beginText r => leadingLits r
  | _ => []

theorem getElem?_drop_head {s : Bytes} {i : Nat} {b : UInt8} (h : s[i]? = some b) : s.drop i = b :: s.drop (i+1) := by
  obtain ⟨hi, rfl⟩ := List.getElem?_eq_some_iff.mp h
  exact List.drop_eq_getElem_cons hi

theorem leadingLits_sound {r : Re} {s : Bytes} {i j : Nat} (h : M r s i j) : leadingLits r <+: s.drop i := by
  fun_induction leadingLits r generalizing i j with
  | case1 b =>
    cases h with
    | litA hb => rw [getElem?_drop_head hb]; exact (List.prefix_cons_inj b).mpr List.nil_prefix
  | case2 b r ih =>
    cases h with
    | cat ha hb =>
      cases ha with
      | litA hc => rw [getElem?_drop_head hc]; exact (List.prefix_cons_inj b).mpr (ih hb)
  | case3 a _ ih =>
    cases h with
    | cat ha _ => cases ha with | cap ha => exact ih ha
  | case4 a ih => cases h with | cap ha => exact ih ha
  | case5 => exact List.nil_prefix

theorem soundPrefix_sound (r : Re) (s : Bytes) (h : Search r s) : soundPrefix r <+: s := by
  obtain ⟨i, j, hm⟩ := h
  fun_cases soundPrefix r with
  | case1 r =>
    cases hm with
    | cat ha hb => cases ha; exact leadingLits_sound hb
  | case2 => exact List.nil_prefix

#print axioms soundPrefix_sound
end Crng
