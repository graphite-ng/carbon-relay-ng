/-! config-file interpolation (cmd/carbon-relay-ng `readConfigFile`, C20): only `$NAME` / `${NAME}` for the four documented
names are substituted; every other `$` sequence is copied verbatim. -/
namespace Crng.Interp
abbrev Bytes := List UInt8
def str (s : String) : Bytes := s.toUTF8.toList

/-- the documented variables "HOST", "GRAFANA_NET_ADDR", "GRAFANA_NET_API_KEY", "GRAFANA_NET_USER_ID", in the order of the
alternation in `configVar`, as bytes (kept literal so that the kernel can compute with them) -/
def names : List Bytes := [[72, 79, 83, 84], [71, 82, 65, 70, 65, 78, 65, 95, 78, 69, 84, 95, 65, 68, 68, 82], [71, 82, 65, 70, 65, 78, 65, 95, 78, 69, 84, 95, 65, 80, 73, 95, 75, 69, 89], [71, 82, 65, 70, 65, 78, 65, 95, 78, 69, 84, 95, 85, 83, 69, 82, 95, 73, 68]]

def hasPrefix (s p : Bytes) : Bool := s.take p.length == p
def isWord (c : UInt8) : Bool := (48 ≤ c && c ≤ 57) || (65 ≤ c && c ≤ 90) || (97 ≤ c && c ≤ 122) || c == 95

/-- does a variable reference start here (`s` begins right after the `$`)? returns (name, bytes consumed after the `$`) -/
def refAt (s : Bytes) : Option (Bytes × Nat) :=
  match s with
  | 123 :: t =>      -- `${NAME}`
    (names.find? fun n => hasPrefix t (n ++ [125])).map fun n => (n, n.length + 2)
  | _ =>             -- `$NAME\b` (leftmost-first alternation: the first name that matches with a word boundary after it)
    (names.find? fun n => hasPrefix s n && (match s.drop n.length with | [] => true | c :: _ => !isWord c)).map fun n => (n, n.length)

/-- `configVar.ReplaceAllStringFunc(data, expand)` -/
def interp (env : Bytes → Bytes) : Nat → Bytes → Bytes
  | 0, s => s
  | _, [] => []
  | fuel + 1, c :: t =>
    if c == 36 then
      match refAt t with
      | some (n, k) => env n ++ interp env fuel (t.drop k)
      | none => c :: interp env fuel t
    else c :: interp env fuel t

def expand (env : Bytes → Bytes) (s : Bytes) : Bytes := interp env (s.length + 1) s

/-- no reference to a documented variable starts anywhere in `s` -/
def noRef : Bytes → Bool
  | [] => true
  | c :: t => (c != 36 || (refAt t).isNone) && noRef t
def NoRef (s : Bytes) : Prop := noRef s = true

theorem interp_noRef (env : Bytes → Bytes) : ∀ (fuel : Nat) (s : Bytes), NoRef s → interp env fuel s = s := by
  intro fuel s
  induction s generalizing fuel with
  | nil => intro _; cases fuel <;> rfl
  | cons c t ih =>
    intro h
    cases fuel with
    | zero => rfl
    | succ f =>
      simp only [NoRef, noRef, Bool.and_eq_true, Bool.or_eq_true, bne_iff_ne, ne_eq, Option.isNone_iff_eq_none] at h
      by_cases hc : c = 36
      · -- a `$` with no reference behind it is copied
        have hr : refAt t = none := h.1.resolve_left fun hn => hn hc
        simp [interp, hc, hr, ih f h.2]
      · simp [interp, hc, ih f h.2]

end Crng.Interp
