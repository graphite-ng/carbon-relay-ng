/-! The first match in a sorted list is the least match: what rule selection (`Sch.select`) and the ring lookup
(`Ring.lookup`) both rest on. -/
namespace Crng.Sorted

theorem find?_least {α : Type} {r : α → α → Prop} (refl : ∀ a, r a a) {l : List α} (hs : l.Pairwise r)
    {p : α → Bool} {a : α} (h : l.find? p = some a) : ∀ b ∈ l, p b = true → r a b := by
  -- the list is `front ++ a :: back` with no match in `front`
  obtain ⟨_, front, back, rfl, hfront⟩ := List.find?_eq_some_iff_append.mp h
  intro b hb hpb
  rcases List.mem_append.mp hb with h1 | h1
  · exact absurd hpb (by simpa using hfront b h1)
  · rcases List.mem_cons.mp h1 with rfl | h2
    · exact refl _
    · exact (List.pairwise_cons.mp (List.pairwise_append.mp hs).2.1).1 b h2

end Crng.Sorted

/-! Lookup by key in an association list, as `AggCore.lookupB`, `AC.get`, `Ord.get`, `DQ.segGet` and `Lib.mapGet` spell it. -/
namespace Crng.Assoc
variable {α β : Type} [BEq α] [LawfulBEq α]

theorem mem_of_find? {l : List (α × β)} {k : α} {v : β} (h : (l.find? (·.1 == k)).map (·.2) = some v) : (k, v) ∈ l := by
  obtain ⟨⟨k', _⟩, hf, rfl⟩ := Option.map_eq_some_iff.mp h
  obtain rfl : k' = k := by simpa using List.find?_some hf
  exact List.mem_of_find?_eq_some hf

theorem find?_filter_ne (l : List (α × β)) {k k' : α} (h : k' ≠ k) :
    (l.filter (·.1 != k)).find? (·.1 == k') = l.find? (·.1 == k') := by
  rw [List.find?_filter]
  congr 1
  funext a
  by_cases ha : a.1 = k' <;> simp [ha, h]

theorem map_fst_overwrite (l : List (α × β)) (k : α) (v : β) :
    (l.map fun e => if e.1 == k then (k, v) else e).map (·.1) = l.map (·.1) := by
  rw [List.map_map]
  refine List.map_congr_left fun e _ => ?_
  simp only [Function.comp]
  split
  · rename_i he; exact (beq_iff_eq.mp he).symm
  · rfl

end Crng.Assoc
