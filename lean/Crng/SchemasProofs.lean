import Crng.Schemas
import Crng.InsertionSort
import Crng.Sorted
namespace Crng.Sch

open InsertionSort in
theorem insertRule_isInsert : IsInsert (fun a b => key a ≥ key b) insertRule := ⟨fun _ => rfl, fun _ _ _ => rfl⟩

theorem mem_sortRules (l : List Rule) (y : Rule) : y ∈ sortRules l ↔ y ∈ l := (insertRule_isInsert.sort_perm l).mem_iff

theorem sortRules_sorted (l : List Rule) : (sortRules l).Pairwise (fun a b => key a ≥ key b) :=
  insertRule_isInsert.sort_sorted (fun a b => by omega) (fun a b c => by omega) l

/-- the priority key orders rules by (priority descending, then file position ascending), as long as positions fit 32 bits -/
theorem key_order (a b : Rule) (ha : a.idx < 4294967296) (hb : b.idx < 4294967296) :
    key a ≥ key b ↔ a.prio > b.prio ∨ (a.prio = b.prio ∧ a.idx ≤ b.idx) := by
  -- one step of priority weighs 2^32, more than any difference of positions
  unfold key; omega

/-- **rule selection**: the selected rule matches the presented name and every other matching rule comes later in
(priority descending, file order ascending) -/
theorem select_spec (rules : List Rule) (name : Bytes) (r : Rule) (h : select rules name = some r)
    (hidx : ∀ x ∈ rules, x.idx < 4294967296) :
    r ∈ rules ∧ r.accepts name = true ∧
    ∀ r' ∈ rules, r'.accepts name = true → r.prio > r'.prio ∨ (r.prio = r'.prio ∧ r.idx ≤ r'.idx) := by
  unfold select at h
  have hmem : r ∈ rules := (mem_sortRules rules r).mp (List.mem_of_find?_eq_some h)
  have hacc := List.find?_some h
  refine ⟨hmem, hacc, fun r' hr' ha' => ?_⟩
  rw [← key_order r r' (hidx r hmem) (hidx r' hr')]
  exact Sorted.find?_least (r := fun a b => key a ≥ key b) (fun _ => Int.le_refl _) (sortRules_sorted rules) h r'
    ((mem_sortRules rules r').mpr hr') ha'

/-- with a catch-all rule (getSchemas requires `.*`) some rule is always selected -/
theorem select_total (rules : List Rule) (name : Bytes) (h : ∃ r ∈ rules, r.accepts name = true) : (select rules name).isSome := by
  unfold select
  obtain ⟨r, hr, ha⟩ := h
  rw [List.find?_isSome]
  exact ⟨r, (mem_sortRules rules r).mpr hr, ha⟩

/-- an untagged name is presented as itself (no trailing `;`) -/
theorem presented_untagged (name : Bytes) : presented name [] = name := rfl

/-- the record carries what the line said: the interval is that of the selected rule, the value/time/org are passed through -/
theorem record_fields (rules : List Rule) (org : Nat) (nwt : Bytes) (bits ts : Nat) (md : MD)
    (h : buildMetric rules org nwt bits ts = some md) :
    md.bits = bits ∧ md.time = ts ∧ md.org = org ∧ org ≠ 0 ∧ md.interval ≠ 0 ∧ md.tags.all validTag = true ∧
    ∃ name tags r, splitOn 59 nwt = name :: tags ∧ select rules (presented name tags) = some r ∧
      md.interval = r.interval ∧ md.name = eatDots name ∧ md.tags = sortTags tags := by
  unfold buildMetric at h
  split at h
  · cases h
  · next name tags hsp =>
    split at h
    · cases h
    · next r hsel =>
      simp only [] at h
      split at h
      · cases h
      · next hc =>
        cases h
        simp only [Bool.or_eq_true, beq_iff_eq, Bool.not_eq_true', not_or, Bool.not_eq_false] at hc
        exact ⟨rfl, rfl, rfl, hc.1.1.1, hc.1.1.2, hc.2, name, tags, r, hsp, hsel, rfl, rfl, rfl⟩

end Crng.Sch
