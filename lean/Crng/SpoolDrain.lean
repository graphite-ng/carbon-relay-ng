import Crng.SpoolProofs
/-! The backlog of a spooling destination drains: a measure that every internal step decreases, and what a state looks like
    when no internal step is left while the relay holds a live connection. -/
namespace Crng.Spool

/-- the steps the relay, the connection goroutines, the spool and the endpoint take on their own:
    no hand-off, no fault, no reconnect -/
def internal : Act → Bool
  | .take _ | .keepAdd _ | .deliver _ _ | .stop _ | .collect _ | .ingest | .unspoolQueued | .unspoolDropSlow => true
  | _ => false

/-- Remaining work of one connection: a line weighs more the further it is from the endpoint, so that every internal step
    moves it to a lighter place. Heaviest first: `In` of a noticed (dead) connection 9, its `HandleData` 8, its keepSafe 6,
    then (`mu`) the redo list 5 and the spool 4, `In` of a live connection 3, its `HandleData` 2, the wire 1. What a live
    connection keeps safe is on the wire or has arrived (`Inv.wire`) and weighs nothing of its own. -/
def wConn (c : Conn) : Nat :=
  (if c.stopped then 0 else 1) + (if c.collected then 0 else 1) +
  (if c.noticed then 9 * c.inQ.length + (if c.hd.isSome then 8 else 0) + 6 * c.keep.length
   else 3 * c.inQ.length + (if c.hd.isSome then 2 else 0)) + c.wire.length

def sumTo (f : Nat → Nat) : Nat → Nat
  | 0 => 0
  | n + 1 => sumTo f n + f n

def mu (s : S) : Nat := 5 * s.redo.length + 4 * s.spoolQ.length + sumTo (fun k => wConn (s.conns k)) s.ngen

theorem sumTo_congr {f g : Nat → Nat} {n : Nat} (h : ∀ j, j < n → f j = g j) : sumTo f n = sumTo g n := by
  induction n with
  | zero => rfl
  | succ n ih => rw [sumTo, sumTo, ih fun j hj => h j (Nat.lt_succ_of_lt hj), h n (Nat.lt_succ_self n)]

theorem sumTo_update {f g : Nat → Nat} {k n : Nat} (hk : k < n) (h : ∀ j, j ≠ k → g j = f j) :
    sumTo g n + f k = sumTo f n + g k := by
  induction n with
  | zero => cases hk
  | succ n ih =>
    rw [sumTo, sumTo]
    by_cases hkn : k = n
    · rw [hkn, sumTo_congr fun j hj => h j (hkn ▸ Nat.ne_of_lt hj), Nat.add_right_comm]
    · rw [h n (Ne.symm hkn), Nat.add_right_comm, ih (Nat.lt_of_le_of_ne (Nat.le_of_lt_succ hk) hkn), Nat.add_right_comm]

/-- connection `k` goes from `c` to a strictly lighter `c'`, the queues do not get heavier -/
theorem mu_conn_lt {s s' : S} {k : Nat} {c' : Conn} (hk : k < s.ngen) (hconns : s'.conns = upd s.conns k c')
    (hngen : s'.ngen = s.ngen) (hq : 5 * s'.redo.length + 4 * s'.spoolQ.length + wConn c' < 5 * s.redo.length + 4 * s.spoolQ.length + wConn (s.conns k)) :
    mu s' < mu s := by
  have := sumTo_update (f := fun j => wConn (s.conns j)) (g := fun j => wConn (s'.conns j)) hk
    fun j hj => by rw [hconns, upd_other _ _ hj]
  simp only [hconns, upd_same] at this
  unfold mu
  rw [hconns, hngen]
  omega

/-- every enabled internal step strictly decreases the measure -/
theorem internal_decreases (h1 h2 : Bool) (s : S) (a : Act) (hint : internal a = true) (hen : enabled h1 h2 s a = true) (hi : Inv s) :
    mu (step s a) < mu s := by
  cases a with
  | take k =>
    obtain ⟨hk, -, hhd, y, q, hq⟩ := enabled_iff.mp hen
    simp only [step, hq]
    refine mu_conn_lt hk rfl rfl (Nat.add_lt_add_left ?_ _)
    -- 3 → 2 while the relay uses the connection, 9 → 8 once it is being collected
    cases hn : (s.conns k).noticed
    all_goals
      simp only [wConn, hn, hq, hhd, List.length_cons, Option.isSome_some, Option.isSome_none, Bool.false_eq_true, if_true, if_false]
      omega
  | keepAdd k =>
    obtain ⟨hk, -, y, hh⟩ := enabled_iff.mp hen
    simp only [step, hh]
    refine mu_conn_lt hk rfl rfl (Nat.add_lt_add_left ?_ _)
    -- 2 → 0 or 1 (on the wire if the connection is alive) while the relay uses it, 8 → 6 or 7 once it is being collected
    cases hn : (s.conns k).noticed <;> cases (s.conns k).dead
    all_goals
      simp only [wConn, hn, hh, Option.isSome_some, Option.isSome_none, Bool.false_eq_true, if_true, if_false,
        List.length_append, List.length_cons, List.length_nil]
      omega
  | deliver k id =>
    obtain ⟨hk, -, hmem⟩ := enabled_iff.mp hen
    simp only [step]
    -- `wConn` is `… + wire.length`, and only the wire changes
    refine mu_conn_lt hk rfl rfl (Nat.add_lt_add_left (Nat.add_lt_add_left ?_ _) _)
    rw [List.length_erase_of_mem hmem]
    exact Nat.pred_lt (Nat.ne_of_gt (List.length_pos_of_mem hmem))
  | stop k =>
    obtain ⟨hk, -, hns, -⟩ := enabled_iff.mp hen
    simp only [step]
    refine mu_conn_lt hk rfl rfl (Nat.add_lt_add_left ?_ _)
    simp only [wConn, hns, Bool.false_eq_true, if_true, if_false]
    omega
  | collect k =>
    obtain ⟨hk, hn, hnc, -⟩ := enabled_iff.mp hen
    -- a line weighs 5 in the redo list, less than the 9 (In) or 6 (keepSafe) it weighed in the noticed connection
    refine mu_conn_lt hk rfl rfl ?_
    simp only [step, wConn, hn, hnc, Bool.false_eq_true, if_true, if_false, List.length_append, List.length_nil]
    omega
  | ingest =>
    obtain ⟨y, r, hr⟩ := enabled_iff.mp hen
    simp only [step, hr, mu, List.length_cons, List.length_append, List.length_nil]
    omega
  | unspoolQueued =>
    obtain ⟨⟨k, hcur⟩, y, q, hq⟩ := enabled_iff.mp hen
    simp only [step, hcur, hq]
    -- 4 in the spool → 3 in the queue of the relay's connection, which is not noticed
    refine mu_conn_lt (hi.cur_lt k hcur) rfl rfl ?_
    simp only [wConn, hi.cur_unnoticed k hcur, hq, Bool.false_eq_true, if_false, List.length_cons, List.length_append, List.length_nil]
    omega
  | unspoolDropSlow =>
    obtain ⟨-, y, q, hq⟩ := enabled_iff.mp hen
    simp only [step, hq, mu, List.length_cons]
    omega
  | handoffQueued _ | handoffDropSlow _ | handoffSpooled _ | handoffDropSpool _ | rotate _ _ | die _ | notice | reconnect =>
    cases hint

/-- a schedule of internal steps, each enabled when its turn comes -/
def internalRun (h1 h2 : Bool) : S → List Act → Bool
  | _, [] => true
  | s, a :: as => internal a && enabled h1 h2 s a && internalRun h1 h2 (step s a) as

/-- such a schedule is never longer than the measure of the state it starts in: the backlog cannot take for ever -/
theorem internalRun_bounded (h1 h2 : Bool) (acts : List Act) (s : S) (hi : Inv s) (hr : internalRun h1 h2 s acts = true) :
    acts.length ≤ mu s := by
  induction acts generalizing s with
  | nil => simp
  | cons a as ih =>
    simp only [internalRun, Bool.and_eq_true] at hr
    obtain ⟨⟨hint, hen⟩, hrest⟩ := hr
    have h1' := internal_decreases h1 h2 s a hint hen hi
    have h2' := ih (step s a) (step_inv h1 h2 s a hen hi) hrest
    simp only [List.length_cons]
    omega

/-- nothing internal is left to do -/
def Stuck (s : S) : Prop := ∀ a, internal a = true → enabled true true s a = false

theorem exists_cons_of_mem {α : Type} {l : List α} {x : α} (h : x ∈ l) : ∃ y q, l = y :: q :=
  List.exists_cons_of_ne_nil (List.ne_nil_of_mem h)

/-- progress: while the relay holds a live connection `k`, a line that sits in a connection, a redo list or the spool has
    arrived already or gives some internal step something to do -/
theorem progress (h1 h2 : Bool) {s : S} (hi : Inv s) {k : Nat} (hcur : s.cur = some k) (halive : (s.conns k).dead = false) {x : Nat}
    (h : (∃ j, inConn (s.conns j) x) ∨ x ∈ s.redo ∨ x ∈ s.spoolQ) :
    x ∈ s.recv ∨ ∃ a, internal a = true ∧ enabled h1 h2 s a = true := by
  rcases h with ⟨j, hcol, h⟩ | h | h
  · have hjn : j < s.ngen := Nat.lt_of_not_le fun hle => by rw [hi.fresh j hle] at h; simp at h
    cases hh : (s.conns j).hd with
    | some y =>
      have hns : (s.conns j).stopped = false := Bool.eq_false_iff.mpr fun hs => by rw [hi.stopped_hd j hs] at hh; cases hh
      exact .inr ⟨.keepAdd j, rfl, enabled_iff.mpr ⟨hjn, hns, y, hh⟩⟩
    | none =>
      cases hs : (s.conns j).stopped with
      | false =>
        cases hd : (s.conns j).dead with
        | true => exact .inr ⟨.stop j, rfl, enabled_iff.mpr ⟨hjn, hd, hs, hh⟩⟩
        | false =>
          rcases h with h | h | h
          · obtain ⟨y, q, hq⟩ := exists_cons_of_mem h
            exact .inr ⟨.take j, rfl, enabled_iff.mpr ⟨hjn, hs, hh, y, q, hq⟩⟩
          · rw [hh] at h; cases h
          · exact (hi.wire j hd x h).symm.imp_right fun hw => ⟨.deliver j x, rfl, enabled_iff.mpr ⟨hjn, hd, hw⟩⟩
      | true =>
        -- a stopped connection is dead, so it is not the relay's: the relay has noticed, and getRedo may run
        have hjk : s.cur ≠ some j := fun e => by
          have := hi.stopped_dead j hs
          rw [show j = k from Option.some.inj (e.symm.trans hcur), halive] at this; cases this
        exact .inr ⟨.collect j, rfl, enabled_iff.mpr ⟨hjn, hi.old_noticed j hjn hjk, hcol, fun _ => hs⟩⟩
  · obtain ⟨y, r, hr⟩ := exists_cons_of_mem h
    exact .inr ⟨.ingest, rfl, enabled_iff.mpr ⟨y, r, hr⟩⟩
  · obtain ⟨y, q, hq⟩ := exists_cons_of_mem h
    exact .inr ⟨.unspoolQueued, rfl, enabled_iff.mpr ⟨⟨k, hcur⟩, y, q, hq⟩⟩

/-- when nothing internal is left to do and the relay holds a live connection, every handed-off line has been
    received by the endpoint or counted as dropped -/
theorem stuck_all_accounted (s : S) (hc : Conserved s) (hi : Inv s) (hst : Stuck s) (k : Nat) (hcur : s.cur = some k)
    (halive : (s.conns k).dead = false) : ∀ id ∈ s.handed, id ∈ s.recv ∨ id ∈ s.counted := by
  intro id hid
  rcases hc id hid with h | h | h
  · exact .inl h
  · exact .inr h
  · rcases progress true true hi hcur halive h with h | ⟨a, hint, hen⟩
    · exact .inl h
    · rw [hst a hint] at hen; cases hen

end Crng.Spool
