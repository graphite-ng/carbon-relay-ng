import Crng.BufWriterProofs
import Crng.PickleProofs
/-! # C05 — a healthy carbon connection carries the lines in order, once, unbroken
Model: `Crng/BufWriter.lean` (destination/bufwriter.go, statement by statement, over a scripted socket),
`Conn.Write` = `Write(line); Write("\n")` or `Write(pickle dp)`. -/
namespace Crng.Props.C05
open Crng.BW

/-- For any sequence of writes and flushes, any buffer size and **any** behaviour of the socket (complete, short or
failing writes): socket bytes ++ buffered bytes = the accepted bytes, in order. Nothing is lost, duplicated, torn or
reordered, even at the failure point. -/
theorem stream_invariant (ops : List Op) (w : W) :
    (runOps w ops).1.stream = w.stream ++ (runOps w ops).2 :=
  Crng.BW.stream_invariant ops w

/-- what reached the socket is always a prefix of what `Write` reported as accepted -/
theorem socket_prefix (ops : List Op) (w : W) (h : w.buf = [] ∧ w.sock = []) :
    (runOps w ops).1.sock <+: (runOps w ops).2 :=
  Crng.BW.socket_prefix ops w h

/-- healthy connection, any interleaving of writes with (periodic or manual) flushes, any buffer size:
after a final flush the endpoint has exactly the payloads in hand-off order, and no error occurred -/
theorem healthy_stream (ops : List Op) (w : W) (h : Healthy w) (hb : w.buf = []) (hs : w.sock = []) :
    (flush (runOps w ops).1).1.sock = payloads ops ∧ (flush (runOps w ops).1).2 = false :=
  Crng.BW.healthy_stream ops w h hb hs

/-- plain mode: each line once, in order, each terminated by a single newline, for every I/O buffer size
(from 1 byte) and every placement of flush ticks between lines -/
theorem healthy_lines (ls : List (Bytes × Nat)) (cap : Nat) :
    (flush (runOps { cap := cap } (lineOps ls)).1).1.sock = ls.flatMap (fun l => l.1 ++ [10]) :=
  Crng.BW.healthy_lines ls cap

/-- pickle mode: what is written per line is a 4-byte big-endian length followed by exactly that many bytes -/
theorem pickle_frame (name : Bytes) (ts bits : Nat) :
    Crng.Pk.pickleOut name ts bits = Crng.Pk.be32 (Crng.Pk.pickleBody name ts bits).length ++ Crng.Pk.pickleBody name ts bits := rfl

/-- non-vacuity: a 3-byte buffer, lines longer than the buffer, a tick in between -/
example : (flush (runOps { cap := 3 } (lineOps [([97,46,98,32,49,32,50], 1), ([99], 0)])).1).1.sock
    = [97,46,98,32,49,32,50,10,99,10] := by decide

end Crng.Props.C05
