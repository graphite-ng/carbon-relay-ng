import Crng.SpoolDrain
import Crng.KeepSafe
/-! # C07 — with spooling on, an endpoint outage loses nothing that is not counted

`Crng/Spool.lean` follows a line through every place it can be between the hand-off to a spooling destination and its
reception by the endpoint, for every schedule of the goroutines' atomic steps, every fault (a connection may die at any
moment, any number of times, also while its predecessor is still being collected) and every traffic placement.

Two hypotheses are explicit switches of the model:
* **H1** — keepSafe forgets a line only after the endpoint has it. The code forgets by age (two generations of 10 s):
  H1 is the timing assumption "what was written at least 10 s ago on a connection still believed alive has arrived"
  (the code comment at `keepsafe_keep_duration` states it). `h1_needed` shows the loss without it.
* **H2** — getRedo collects only after HandleData has stopped. At the pinned commit the code did not establish this
  (`h2_needed` is the schedule, replayed on the real code through the verif schedule point); `c.wg.Wait()` in getRedo
  (fix aca0098, obligation `Crng.Tie.C07.getredo_ok`) establishes it.

What is outside: real time (the 10 s), the Go scheduler's fairness (every enabled step is eventually taken — needed to turn
`backlog_bounded` + `drained_all_accounted` into "drains completely"), the kernel's TCP buffers (the `wire`), the disk queue
behind the spool (C08/C09). -/
namespace Crng.Props.C07
open Crng.Spool

theorem init_ok : Conserved {} ∧ Inv {} :=
  ⟨nofun, .of_conn (fun _ _ => rfl) nofun nofun (fun _ h => absurd h (Nat.not_lt_zero _)) rfl
    fun _ => ⟨nofun, nofun, nofun, nofun, nofun⟩⟩

/-- **conservation, all schedules**: after any schedule of hand-offs, goroutine steps, connection deaths, rotations (H1),
collections (H2) and reconnects, every line ever handed to the destination has been received, has been counted as dropped,
or sits in a place from which it is written, collected or unspooled: a connection's In/keepSafe, a redo list, the spool -/
theorem conservation (acts : List Act) (s : S) (hc : Conserved s) (hi : Inv s) :
    Conserved (run true true s acts) ∧ Inv (run true true s acts) := by
  induction acts generalizing s with
  | nil => exact ⟨hc, hi⟩
  | cons a as ih =>
    simp only [run]
    split
    · rename_i hen
      exact ih _ (step_conserved s a hen hc hi) (step_inv true true s a hen hi)
    · exact ih s hc hi

theorem conservation_from_start (acts : List Act) : Conserved (run true true {} acts) ∧ Inv (run true true {} acts) :=
  conservation acts {} init_ok.1 init_ok.2

/-- the drop counters count exactly the lines recorded as dropped -/
theorem counters_exact (acts : List Act) : (run true true {} acts).counted.length = (run true true {} acts).slowConn + (run true true {} acts).slowSpool :=
  (conservation_from_start acts).2.counters

/-- **the backlog drains**: once the endpoint stays up (only internal steps happen) the number of steps that can still be
taken is bounded by the measure of the state — whatever is spooled, being collected or queued is finite work -/
theorem backlog_bounded (acts : List Act) (s : S) (hi : Inv s) (hr : internalRun true true s acts = true) : acts.length ≤ mu s :=
  internalRun_bounded true true acts s hi hr

/-- … and when no internal step is left while the relay holds a live connection, every handed-off line has been received or
counted — nothing is left behind in a dead connection, a redo list or the spool -/
theorem drained_all_accounted (acts : List Act) (k : Nat) (hst : Stuck (run true true {} acts))
    (hcur : (run true true {} acts).cur = some k) (halive : ((run true true {} acts).conns k).dead = false) :
    ∀ id ∈ (run true true {} acts).handed, id ∈ (run true true {} acts).recv ∨ id ∈ (run true true {} acts).counted :=
  stuck_all_accounted _ (conservation_from_start acts).1 (conservation_from_start acts).2 hst k hcur halive

/-- **the bound of the property statement**: at such a point the number of distinct lines never received is at most
slow_conn + slow_spool -/
theorem never_received_bound (acts : List Act) (k : Nat) (hst : Stuck (run true true {} acts))
    (hcur : (run true true {} acts).cur = some k) (halive : ((run true true {} acts).conns k).dead = false)
    (miss : List Nat) (hnd : miss.Nodup)
    (hm : ∀ id ∈ miss, id ∈ (run true true {} acts).handed ∧ id ∉ (run true true {} acts).recv) :
    miss.length ≤ (run true true {} acts).slowConn + (run true true {} acts).slowSpool := by
  rw [← counters_exact acts]
  apply List.Nodup.length_le_of_subset hnd
  intro id hid
  have := hm id hid
  exact (drained_all_accounted acts k hst hcur halive id this.1).elim (fun h => absurd h this.2) (fun h => h)

/-- **in-flight lines are replayed**: when a dead connection is collected, everything in its In queue and its keepSafe
(written but possibly not arrived) goes to the redo list, hence to the spool, hence — by conservation — to the endpoint or a counter -/
theorem inflight_replayed (s : S) (k : Nat) : ∀ id, id ∈ (s.conns k).inQ ∨ id ∈ (s.conns k).keep → id ∈ (step s (.collect k)).redo := by
  intro id h
  simp only [step, List.mem_append]
  exact .inr h.symm

/-- the duplicates the property allows really occur: a line that arrived and is still in keepSafe when the connection dies is sent again -/
example : let s := run true true {} [.reconnect, .handoffQueued 7, .take 0, .keepAdd 0, .deliver 0 7, .die 0, .stop 0, .notice, .collect 0, .ingest,
                                      .reconnect, .unspoolQueued, .take 1, .keepAdd 1, .deliver 1 7]
    s.recv = [7, 7] ∧ s.counted = [] := by decide

/-- an outage with traffic before, during and after it, drained: all four lines arrive, nothing is counted (the premises of
`drained_all_accounted` are met by a real run: no internal step is enabled at the end) -/
example : let s := run true true {} [.reconnect, .handoffQueued 1, .take 0, .keepAdd 0, .handoffQueued 2, .die 0, .handoffQueued 3, .notice,
                                      .handoffSpooled 4, .take 0, .keepAdd 0, .take 0, .keepAdd 0, .stop 0, .collect 0, .reconnect,
                                      .ingest, .ingest, .ingest, .unspoolQueued, .unspoolQueued, .unspoolQueued, .unspoolQueued,
                                      .take 1, .keepAdd 1, .deliver 1 4, .take 1, .keepAdd 1, .deliver 1 1, .take 1, .keepAdd 1, .deliver 1 2,
                                      .take 1, .keepAdd 1, .deliver 1 3]
    s.handed = [4, 3, 2, 1] ∧ s.recv = [3, 2, 1, 4] ∧ s.counted = [] ∧ s.cur = some 1 ∧ (s.conns 1).dead = false ∧
    s.redo = [] ∧ s.spoolQ = [] ∧ (s.conns 1).inQ = [] ∧ (s.conns 1).wire = [] ∧ (s.conns 0).collected = true := by decide

/-- **H2 is needed** (the defect repaired by aca0098): HandleData has taken line 7, the connection dies, the relay notices and
getRedo collects, only then HandleData adds 7 to a keepSafe nobody reads again: 7 is handed off, never received, not counted,
and in no place from which it could still be sent -/
theorem h2_needed : let s := run true false {} [.reconnect, .handoffQueued 7, .take 0, .die 0, .notice, .collect 0, .keepAdd 0, .stop 0, .reconnect]
    7 ∈ s.handed ∧ 7 ∉ s.recv ∧ 7 ∉ s.counted ∧ s.redo = [] ∧ s.spoolQ = [] ∧ (s.conns 0).collected = true ∧ (s.conns 1).inQ = [] := by decide

/-- **H1 is needed**: a line written to a connection whose endpoint never reads, forgotten by keepSafe before the connection dies -/
theorem h1_needed : let s := run false true {} [.reconnect, .handoffQueued 7, .take 0, .keepAdd 0, .rotate 0 7, .die 0, .stop 0, .notice, .collect 0, .reconnect]
    7 ∈ s.handed ∧ 7 ∉ s.recv ∧ 7 ∉ s.counted ∧ s.redo = [] ∧ s.spoolQ = [] ∧ (s.conns 0).collected = true := by decide

/-- **keepSafe, slice level**: for every history of Add / rotation / GetAll and every growth policy of `append`, each GetAll
returns exactly old ++ recent — the two generations never share a backing array (`Crng.KeepSafe.Rep.apart`) -/
theorem keepsafe_getall (slack cap : Nat) (ops : List Crng.KeepSafe.Op) :
    (Crng.KeepSafe.run slack cap (Crng.KeepSafe.init cap) ops).2 = (Crng.KeepSafe.specRun ([], []) ops).2 :=
  (Crng.KeepSafe.run_refines slack cap ops _ _ (Crng.KeepSafe.rep_init cap)).1

end Crng.Props.C07
