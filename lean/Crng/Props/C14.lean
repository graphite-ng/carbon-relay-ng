import Crng.Safe
/-! # C14 — nothing received from the network or the admin port can crash the relay

What is *proved* here is the decision logic of the second half of the statement: a configuration or admin command whose
parameters cannot work is rejected, never accepted and crashed on later. Each constructor's acceptance test is stated next
to the Go operations that panic on what it hands on (`Crng/Safe.lean`, 64-bit wrap-around included), and acceptance is shown
to imply that none of them panics. The acceptance tests and the uses are tied to the source by `Crng.Tie.C14`
(regenerated skeletons of the constructors and of every guarded use, plus the inventory of every panic-capable construct
in the code that inputs and admin commands reach).

What is *not* proved: that no byte sequence on the inputs makes the Go runtime panic somewhere in that code. The parsers'
models (C12, C13, C02, C16) are total functions whose agreement with the real code is checked on every run, and the real
code is searched for crashes (random, grammar-generated and mutated inputs, and the full table of boundary
configurations, in a process that dies on any panic). That part is a search, and is labelled as such. -/
namespace Crng.Props.C14
open Crng.Safe

/-- a count that fits an int32, of elements of at most 64 KiB, stays within what `make` can allocate: 2^31 * 2^16 = 2^47 -/
theorem makeOk_of_int32 (n elem : Int) (h0 : 0 ≤ n) (hn : n ≤ maxInt32) (he : 0 ≤ elem ∧ elem ≤ 65536 := by decide) :
    makeOk n elem = true := by
  have : n * elem ≤ maxInt32 * 65536 := Int.mul_le_mul hn he.2 he.1 (by decide)
  simp only [makeOk, Bool.and_eq_true, decide_eq_true_eq]
  exact ⟨h0, Int.le_trans this (by decide)⟩

/-- an accepted aggregation has a strictly positive ticker period that is the interval itself: AlignedTick never divides by
zero and always sleeps a positive time (no busy loop), for every clock reading — and `ts % Interval` in the run loop is defined -/
theorem agg_accept_safe (interval : Nat) (f r : Bool) (h : aggAccept interval f r = true) :
    f = true ∧ r = true ∧ divOk interval = true ∧
    ∀ adjusted : Int, ∃ d, tickDiff (periodNs interval) adjusted = some d ∧ 0 < d := by
  simp only [aggAccept, Bool.and_eq_true, decide_eq_true_eq] at h
  obtain ⟨⟨⟨⟨hf, hr⟩, hi⟩, hp⟩, _⟩ := h
  refine ⟨hf, hr, by simp [divOk]; omega, ?_⟩
  intro adjusted
  have hne : periodNs interval ≠ 0 := by omega
  refine ⟨periodNs interval - adjusted.tmod (periodNs interval), by simp [tickDiff, hne], ?_⟩
  have := Int.tmod_lt_of_pos adjusted hp
  omega

/-- the acceptance test of the pinned tree (interval ≠ 0) was not enough: 2^55 seconds is a zero `time.Duration` -/
theorem agg_old_accept_unsafe : aggAcceptOld (2 ^ 55) true true = true ∧ tickDiff (periodNs (2 ^ 55)) 0 = none := by decide

/-- non-vacuity: ordinary intervals are accepted -/
example : aggAccept 10 true true = true ∧ aggAccept 86400 true true = true ∧ aggAccept 9223372036 true true = true ∧
    aggAccept 9223372037 true true = false ∧ aggAccept 0 true true = false ∧ aggAccept (2 ^ 55) true true = false := by decide

/-- an accepted destination starts: both tickers, the connection channel, the io buffer, and with spooling the spool channel and the sync ticker -/
theorem dest_accept_safe (p : DestP) (h : destAccept p = true) : destUses p = true := by
  simp only [destAccept, Bool.and_eq_true, Bool.not_eq_true', Bool.or_eq_false_iff, decide_eq_false_iff_not, Bool.and_eq_false_iff] at h
  obtain ⟨⟨⟨⟨flush_pos, reconn_pos⟩, ⟨connBuf_nonneg, ioBuf_pos⟩⟩, spool_lo⟩, ⟨⟨connBuf_max, ioBuf_max⟩, spool_max⟩⟩ := h
  have hflush : tickerOk p.flush = true := decide_eq_true (by omega)
  have hreconn : tickerOk p.reconn = true := decide_eq_true (by omega)
  have hconn : makeOk p.connBuf 24 = true := makeOk_of_int32 _ _ (by omega) (by omega)
  have hio : makeOk p.ioBuf 1 = true := makeOk_of_int32 _ _ (by omega) (by omega)
  have hiopos : decide (0 < p.ioBuf) = true := decide_eq_true (by omega)
  have hspool : (!p.spool || (makeOk p.spoolBuf 24 && tickerOk p.syncPeriod)) = true := by
    cases hs : p.spool with
    | false => rfl
    | true =>
      rw [hs] at spool_lo spool_max
      simp only [Bool.true_eq_false, false_or] at spool_lo spool_max
      have hchan : makeOk p.spoolBuf 24 = true := makeOk_of_int32 _ _ (by omega) (by omega)
      have hsync : tickerOk p.syncPeriod = true := decide_eq_true (by omega)
      rw [hchan, hsync]; rfl
  rw [destUses, hflush, hreconn, hconn, hio, hiopos, hspool]; rfl

example : destAccept ⟨1000, 10000, 30000, 2000000, true, 10000, 1000⟩ = true ∧ destAccept ⟨0, 10000, 30000, 2000000, false, 0, 0⟩ = false ∧
    destAccept ⟨1000, 10000, 9223372036854775807, 2000000, false, 0, 0⟩ = false := by decide

/-- an accepted grafanaNet route starts and dispatches: the shard arithmetic never divides by zero, the allocations are in range -/
theorem gn_accept_safe (p : GnP) (h : gnAccept p = true) : gnUses p = true := by
  simp only [gnAccept, Bool.and_eq_true, Bool.not_eq_true', Bool.or_eq_false_iff, decide_eq_false_iff_not] at h
  obtain ⟨⟨⟨⟨conc_pos, buf_nonneg⟩, _⟩, wait_pos⟩, ⟨⟨conc_max, buf_max⟩, _⟩⟩ := h
  have hI : maxInt32 = 2147483647 := rfl
  have hshards : makeOk p.concurrency 8 = true := makeOk_of_int32 _ _ (by omega) (by omega)
  have hdiv : divOk p.concurrency = true := decide_eq_true (by omega)
  -- the per-shard buffer is between 0 and the whole buffer
  have hb : 0 ≤ p.bufSize := by omega
  have hq : 0 ≤ p.bufSize.tdiv p.concurrency ∧ p.bufSize.tdiv p.concurrency ≤ p.bufSize := by
    rw [Int.tdiv_eq_ediv_of_nonneg hb]
    exact ⟨Int.ediv_nonneg hb (by omega), Int.ediv_le_self _ hb⟩
  have hbuf : makeOk (p.bufSize.tdiv p.concurrency) 24 = true := makeOk_of_int32 _ _ hq.1 (by omega)
  have hwg : decide (0 ≤ p.concurrency) = true := decide_eq_true (by omega)
  have hmod : divOk (p.concurrency % 4294967296) = true := by
    rw [Int.emod_eq_of_lt (by omega) (by omega)]; exact hdiv
  have hwait : tickerOk p.flushMaxWait = true := decide_eq_true (by omega)
  rw [gnUses, hshards, hdiv, hbuf, hwg, hmod, hwait]; rfl

example : gnAccept ⟨100, 10000000, 5000, 500⟩ = true ∧ gnAccept ⟨0, 10000000, 5000, 500⟩ = false ∧ gnAccept ⟨4294967296, 1, 1, 1⟩ = false := by decide

/-- a consistent-hashing route that starts with at least one destination keeps at least one through every sequence of
additions and (accepted or refused) removals, so GetDestinationIndex's modulo by the ring length is always defined -/
theorem ch_ring_nonempty (ops : List ChOp) (n replicas : Nat) (hn : 1 ≤ n) (hr : 1 ≤ replicas) :
    1 ≤ ops.foldl chStep n ∧ ∀ pos, ringIndex (ops.foldl chStep n) replicas pos ≠ none := by
  have key : 1 ≤ ops.foldl chStep n := by
    induction ops generalizing n with
    | nil => exact hn
    | cons op ops ih =>
      apply ih
      cases op with
      | add => simp [chStep]
      | del idx =>
        -- a removal is refused below two destinations
        simp only [chStep]
        split
        · exact hn
        · split
          · exact hn
          · omega
  refine ⟨key, fun pos => ?_⟩
  have : 0 < List.foldl chStep n ops * replicas := Nat.mul_pos (by omega) (by omega)
  simp [ringIndex]; omega

example : [ChOp.del 0, .del 0, .del 0].foldl chStep 2 = 1 := by decide

/-- the index guard of modDest / DelDestination: an index the command grammar can produce (`[0-9]+`, so never negative) is either
refused or in range — never an out-of-range panic -/
theorem index_guard_safe (index len : Int) (h : 0 ≤ index) : guardedIndex index len ≠ none := by
  simp only [guardedIndex, indexOk]
  by_cases h1 : index ≥ len
  · simp [h1]
  · have h2 : index < len := by omega
    simp [h1, h, h2]

/-- … and that is all the guard gives: a negative index would panic, so the grammar's restriction is needed -/
example : guardedIndex (-1) 3 = none := by decide

end Crng.Props.C14
