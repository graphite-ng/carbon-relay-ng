import Crng.Ordered
import Crng.Fnv
/-! # C19 — order validation accepts a point only if it is newer than all accepted before
`Crng/Ordered.lean` is `validate.Ordered` (a map from the name's hash to the newest accepted timestamp; the whole body
runs under one mutex — regenerated fact — so every concurrent execution is a sequential history in lock order). -/
namespace Crng.Props.C19
open Crng.Ord

/-- the map after a history -/
def runMap (hash : Bytes → Nat) : M → List (Bytes × Nat) → M
  | m, [] => m
  | m, (k, ts) :: es => runMap hash (ordered hash m k ts).1 es

theorem stored_bound (hash : Bytes → Nat) (name : Bytes) (hinj : ∀ k, hash k = hash name → k = name) (B : Nat) :
    ∀ (es : List (Bytes × Nat)) (m : M), get m (hash name) ≤ B → (∀ e ∈ es, e.1 = name → e.2 ≤ B) →
      get (runMap hash m es) (hash name) ≤ B := by
  intro es
  induction es with
  | nil => intro m h _; exact h
  | cons e es ih =>
    intro m h hb
    obtain ⟨hk, hb⟩ := List.forall_mem_cons.mp hb
    refine ih _ ?_ hb
    rw [get_ordered hash name hinj]
    split
    · rename_i hacc; exact hk hacc.1
    · exact h

/-- under hash injectivity on the names of the history: timestamps accepted for one name are strictly increasing in
acceptance order (so they never repeat), whatever other names are interleaved -/
theorem accepted_strictly_increasing (hash : Bytes → Nat) (name : Bytes) (hinj : ∀ k, hash k = hash name → k = name)
    (es : List (Bytes × Nat)) : (accepted hash name [] es).Pairwise (· < ·) :=
  Crng.Ord.accepted_strictly_increasing hash name hinj es

/-- a point is accepted iff it is strictly newer than what is stored for its hash bucket -/
theorem accept_iff_newer (hash : Bytes → Nat) (m : M) (key : Bytes) (ts : Nat) :
    (ordered hash m key ts).2 = true ↔ get m (hash key) < ts :=
  Crng.Ord.accept_iff_newer hash m key ts

/-- a point with a positive timestamp newer than every earlier point of its name is never rejected -/
theorem newer_positive_accepted (hash : Bytes → Nat) (name : Bytes) (hinj : ∀ k, hash k = hash name → k = name)
    (es : List (Bytes × Nat)) (ts : Nat) (hpos : 0 < ts) (hnew : ∀ e ∈ es, e.1 = name → e.2 < ts) :
    (ordered hash (runMap hash [] es) name ts).2 = true := by
  rw [accept_iff_newer]
  have := stored_bound hash name hinj (ts - 1) es [] (by rw [get_nil]; omega) (fun e he hn => by have := hnew e he hn; omega)
  omega

/-- a rejected point is counted out-of-order and forwarded nowhere: in the table model it never reaches `dispatch`
(the gate sits between validation and the blacklist — regenerated fact `Crng.Tie.C19.gate_ok`); a point with an equal or
older timestamp is rejected -/
theorem not_newer_rejected (hash : Bytes → Nat) (m : M) (key : Bytes) (ts : Nat) (h : ts ≤ get m (hash key)) :
    (ordered hash m key ts).2 = false ∧ (ordered hash m key ts).1 = m := by
  rw [ordered_reject hash h]; exact ⟨rfl, rfl⟩

/-- the hypothesis is needed: with a hash collision a newer point of one name is rejected because of another name -/
theorem collision_counterexample : run (fun _ => 0) [] [([1], 10), ([2], 5)] = [true, false] := by decide

/-- the counterexample in general: whatever the hash, if two different names collide then the second one's first point — a
name never seen, positive timestamp — is rejected whenever its timestamp is not above the first name's. So the property as
stated holds for a history iff the hash is injective on its names; nothing weaker will do. -/
theorem collision_breaks_newer_positive (hash : Bytes → Nat) (a b : Bytes) (hcol : hash a = hash b) (t1 t2 : Nat)
    (h1 : 0 < t2) (h2 : t2 ≤ t1) : run hash [] [(a, t1), (b, t2)] = [true, false] := by
  have ha : ordered hash [] a t1 = (set [] (hash a) t1, true) := ordered_accept hash (Nat.lt_of_lt_of_le h1 h2)
  have hb : ordered hash (set [] (hash a) t1) b t2 = (set [] (hash a) t1, false) :=
    ordered_reject hash (by rw [← hcol, get_set_same]; exact h2)
  simp only [run, ha, hb]

/-- … and the digest the code uses does collide: two pairs of 20-character names with equal FNV-1a 64 digests (kernel-evaluated;
the Lean definition of the digest is compared with Go's `hash/fnv` on every run) -/
theorem fnv_collision_1 : Crng.Fnv.fnv1a64 Crng.Fnv.pair1a = Crng.Fnv.fnv1a64 Crng.Fnv.pair1b ∧ Crng.Fnv.pair1a ≠ Crng.Fnv.pair1b := by
  decide +kernel
theorem fnv_collision_2 : Crng.Fnv.fnv1a64 Crng.Fnv.pair2a = Crng.Fnv.fnv1a64 Crng.Fnv.pair2b ∧ Crng.Fnv.pair2a ≠ Crng.Fnv.pair2b := by
  decide +kernel

/-- hence the model of `validate.Ordered` *with the digest the code uses* violates the property on a concrete history: the
known finding C19-fnv-collision, replayed on the real table by stream `ordered-hash-collision` -/
theorem fnv_history_violates :
    run Crng.Fnv.fnv1a64 [] [(Crng.Fnv.pair1a, 1500000100), (Crng.Fnv.pair1b, 1500000050)] = [true, false] :=
  collision_breaks_newer_positive _ _ _ fnv_collision_1.1 _ _ (by decide) (by decide)

/-- non-vacuity: interleaved names, repeated and decreasing timestamps -/
example : accepted (fun b => b.foldl (fun a c => a * 256 + c.toNat) 0) [1] []
    [([1], 5), ([2], 9), ([1], 5), ([1], 4), ([1], 7), ([2], 9), ([1], 6), ([1], 8)] = [5, 7, 8] := by decide

end Crng.Props.C19
