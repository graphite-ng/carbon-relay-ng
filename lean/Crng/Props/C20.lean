import Crng.Config
import Crng.Interp
/-! # C20 — configuration means what the documentation says, in both syntaxes
`Crng/Tokens.lean` (toki's ordered first-match tokenisation, `readDestination`), `Crng/Config.lean` (the command readers and
the TOML `Init*` functions on decoded sections), `Crng/Interp.lean` (config-file interpolation). The theorems are about one
`option value` step; the loops around it (`destOpts`, `routeOpts`) fold these steps over the token stream (for the code
regenerated from /repo the loop itself is `Crng.Tie.CodeReadDest.readDestination_eq` / `optLoop_pairs`). -/
namespace Crng.Props.C20
open Crng.Tk Crng.Cfg

/-- **every destination option sets exactly its documented field**, with the documented unit, and nothing else
(all other fields of `d` are those of `d`): stated for each of the eighteen options -/
theorem dest_option_sets_its_field (d : Dest) (w : Bytes) (k : Nat) (b : Bool) :
    DOpt.prefix_.apply (.w w) d = { d with prefix_ := w } ∧ DOpt.notPrefix.apply (.w w) d = { d with notPrefix := w } ∧
    DOpt.sub.apply (.w w) d = { d with sub := w } ∧ DOpt.notSub.apply (.w w) d = { d with notSub := w } ∧
    DOpt.regex.apply (.w w) d = { d with regex := w } ∧ DOpt.notRegex.apply (.w w) d = { d with notRegex := w } ∧
    DOpt.flush.apply (.n k) d = { d with flush := k } ∧ DOpt.reconn.apply (.n k) d = { d with reconn := k } ∧
    DOpt.pickle.apply (.b b) d = { d with pickle := b } ∧ DOpt.spool.apply (.b b) d = { d with spool := b } ∧
    DOpt.connbuf.apply (.n k) d = { d with connBufSize := k } ∧ DOpt.iobuf.apply (.n k) d = { d with ioBufSize := k } ∧
    DOpt.spoolbuf.apply (.n k) d = { d with spoolBufSize := k } ∧ DOpt.maxbytes.apply (.n k) d = { d with spoolMaxBytesPerFile := k } ∧
    DOpt.syncevery.apply (.n k) d = { d with spoolSyncEvery := k } ∧ DOpt.syncperiod.apply (.n k) d = { d with spoolSyncPeriodMs := k } ∧
    DOpt.spoolsleep.apply (.n k) d = { d with spoolSleepUs := k } ∧ DOpt.unspoolsleep.apply (.n k) d = { d with unspoolSleepUs := k } := by
  refine ⟨rfl, rfl, rfl, rfl, rfl, rfl, rfl, rfl, rfl, rfl, rfl, rfl, rfl, rfl, rfl, rfl, rfl, rfl⟩

/-- the option token decides the option, the following token must be of the option's kind, anything else is an error -/
theorem dest_step (opt : String) (v : Tok) (d : Dest) :
    destStep opt v d = (DOpt.ofTok opt).bind fun o => (parseVal o.kind v).map fun x => o.apply x d := rfl

/-- every option token of the documentation is recognised, each as a different option -/
theorem dest_tokens :
    ["optPrefix", "optNotPrefix", "optSub", "optNotSub", "optRegex", "optNotRegex", "optFlush", "optReconn", "optPickle", "optSpool",
     "optConnBufSize", "optIoBufSize", "optSpoolBufSize", "optSpoolMaxBytesPerFile", "optSpoolSyncEvery", "optSpoolSyncPeriod",
     "optSpoolSleep", "optUnspoolSleep"].map DOpt.ofTok =
    [some .prefix_, some .notPrefix, some .sub, some .notSub, some .regex, some .notRegex, some .flush, some .reconn, some .pickle, some .spool,
     some .connbuf, some .iobuf, some .spoolbuf, some .maxbytes, some .syncevery, some .syncperiod, some .spoolsleep, some .unspoolsleep] := by decide

/-- **defaults**: an option string without options leaves the defaults of `readDestination` (= docs/config.md, checked by
`Crng.Tie.C20.modelDefaults_ok` / `destDefaults_ok` and against the docs table by the correspondence run) -/
theorem dest_defaults (addr : Bytes) :
    let d : Dest := { addr := addr }
    d.flush = 1000 ∧ d.reconn = 10000 ∧ d.connBufSize = 30000 ∧ d.ioBufSize = 2000000 ∧ d.spoolBufSize = 10000 ∧
    d.spoolMaxBytesPerFile = 209715200 ∧ d.spoolSyncEvery = 10000 ∧ d.spoolSyncPeriodMs = 1000 ∧ d.spoolSleepUs = 500 ∧
    d.unspoolSleepUs = 10 ∧ d.spool = false ∧ d.pickle = false ∧ d.prefix_ = [] ∧ d.regex = [] := by
  intro d; refine ⟨rfl, rfl, rfl, rfl, rfl, rfl, rfl, rfl, rfl, rfl, rfl, rfl, rfl, rfl⟩

/-- the field of `d` that option `o` sets, as a value of the option's kind -/
def fieldOf : DOpt → Dest → DVal
  | .prefix_, d => .w d.prefix_ | .notPrefix, d => .w d.notPrefix | .sub, d => .w d.sub | .notSub, d => .w d.notSub
  | .regex, d => .w d.regex | .notRegex, d => .w d.notRegex | .flush, d => .n d.flush | .reconn, d => .n d.reconn
  | .pickle, d => .b d.pickle | .spool, d => .b d.spool | .connbuf, d => .n d.connBufSize | .iobuf, d => .n d.ioBufSize
  | .spoolbuf, d => .n d.spoolBufSize | .maxbytes, d => .n d.spoolMaxBytesPerFile | .syncevery, d => .n d.spoolSyncEvery
  | .syncperiod, d => .n d.spoolSyncPeriodMs | .spoolsleep, d => .n d.spoolSleepUs | .unspoolsleep, d => .n d.unspoolSleepUs

def kindOf : DVal → DKind | .w _ => .word | .n _ => .num | .b _ => .bool

theorem eq_of_fields {d d' : Dest} (ha : d.addr = d'.addr) (h : ∀ o, fieldOf o d = fieldOf o d') : d = d' := by
  cases d; cases d'
  simp only [Dest.mk.injEq]
  exact ⟨ha, DVal.w.inj (h .prefix_), DVal.w.inj (h .notPrefix), DVal.w.inj (h .sub), DVal.w.inj (h .notSub), DVal.w.inj (h .regex),
    DVal.w.inj (h .notRegex), DVal.b.inj (h .spool), DVal.b.inj (h .pickle), DVal.n.inj (h .flush), DVal.n.inj (h .reconn),
    DVal.n.inj (h .connbuf), DVal.n.inj (h .iobuf), DVal.n.inj (h .spoolbuf), DVal.n.inj (h .maxbytes), DVal.n.inj (h .syncevery),
    DVal.n.inj (h .syncperiod), DVal.n.inj (h .spoolsleep), DVal.n.inj (h .unspoolsleep)⟩

theorem addr_apply (a : DOpt) (x : DVal) (d : Dest) : (a.apply x d).addr = d.addr := by
  cases a <;> cases x <;> rfl

theorem fieldOf_apply_self (a : DOpt) (x : DVal) (d : Dest) :
    fieldOf a (a.apply x d) = if kindOf x = a.kind then x else fieldOf a d := by
  cases a <;> cases x <;> rfl

theorem apply_of_kind_ne {a : DOpt} {x : DVal} (h : kindOf x ≠ a.kind) (d : Dest) : a.apply x d = d := by
  cases a <;> cases x <;> first | rfl | exact absurd rfl h

theorem fieldOf_apply_of_ne {a b : DOpt} (h : a ≠ b) (x : DVal) (d : Dest) : fieldOf b (a.apply x d) = fieldOf b d := by
  by_cases hk : kindOf x = a.kind
  · -- `x` is of `a`'s kind, `a.apply x` a record update: every other option's field is read off unchanged
    cases a <;> cases x <;> cases hk <;> cases b <;> first | rfl | exact absurd rfl h
  · rw [apply_of_kind_ne hk]

/-- **order of distinct options does not matter** (no option is applied to another option's field) -/
theorem dest_options_commute (a b : DOpt) (x y : DVal) (d : Dest) (h : a ≠ b) :
    a.apply x (b.apply y d) = b.apply y (a.apply x d) := by
  -- field by field: `a`'s own, `b`'s own, and every other (which neither touches)
  apply eq_of_fields
  · simp only [addr_apply]
  · intro o
    by_cases ha : o = a
    · subst ha; simp only [fieldOf_apply_self, fieldOf_apply_of_ne (Ne.symm h)]
    · by_cases hb : o = b
      · subst hb; simp only [fieldOf_apply_self, fieldOf_apply_of_ne h]
      · simp only [fieldOf_apply_of_ne (Ne.symm ha), fieldOf_apply_of_ne (Ne.symm hb)]

/-- the same for route / aggregation filter options: each sets its own field, only words are accepted -/
theorem route_option_sets_its_field (m : M6) (v : Bytes) :
    mStep "optPrefix" ⟨"word", v⟩ m = some { m with pre := v } ∧ mStep "optNotPrefix" ⟨"word", v⟩ m = some { m with npre := v } ∧
    mStep "optSub" ⟨"word", v⟩ m = some { m with sub := v } ∧ mStep "optNotSub" ⟨"word", v⟩ m = some { m with nsub := v } ∧
    mStep "optRegex" ⟨"word", v⟩ m = some { m with re := v } ∧ mStep "optNotRegex" ⟨"word", v⟩ m = some { m with nre := v } ∧
    mStep "optPrefix" ⟨"num", v⟩ m = none ∧ mStep "optFlush" ⟨"word", v⟩ m = none := by
  refine ⟨rfl, rfl, rfl, rfl, rfl, rfl, rfl, rfl⟩

/-- TOML: `sub` takes precedence over the older spelling `substr`; `substr` is used when `sub` is absent -/
theorem sub_substr (sub substr : Bytes) :
    (sub ≠ [] → tomlSub sub substr = sub) ∧ tomlSub [] substr = substr := by
  constructor
  · intro h; cases sub with
    | nil => exact absurd rfl h
    | cons c t => rfl
  · rfl

/-- **interpolation substitutes only the documented variables**: a text in which no `$NAME` / `${NAME}` reference to HOST or
GRAFANA_NET_* starts anywhere is returned byte for byte, whatever other `$` sequences it contains -/
theorem expand_only_documented (env : Bytes → Bytes) (s : Bytes) (h : Crng.Interp.NoRef s) : Crng.Interp.expand env s = s :=
  Crng.Interp.interp_noRef env _ s h

/-- group references of rewriter / aggregation templates are left alone: `$1`, `${1}`, `${1}_x`, `$$`, `${}`, `$HOSTNAME`, `$HOST_X` -/
theorem expand_group_refs (env : Bytes → Bytes) :
    Crng.Interp.expand env [36, 49] = [36, 49] ∧ Crng.Interp.expand env [36, 123, 49, 125] = [36, 123, 49, 125] ∧
    Crng.Interp.expand env [36, 123, 49, 125, 95, 120] = [36, 123, 49, 125, 95, 120] ∧ Crng.Interp.expand env [36, 36] = [36, 36] ∧
    Crng.Interp.expand env [36, 123, 125] = [36, 123, 125] := by
  refine ⟨?_, ?_, ?_, ?_, ?_⟩ <;> (apply Crng.Interp.interp_noRef; unfold Crng.Interp.NoRef; decide)

end Crng.Props.C20
