import Crng.CHashProofs
/-! # C15 — consistent hashing agrees with Carbon and moves only the keys it must
`Crng/CHash.lean` is route/consistent_hashing.go (replica keys, 16-bit positions, ring sorted by (position, host, instance),
binary search modulo the ring length); `Crng/Ring.lean` states Carbon 0.9.x's rule on the *set* of ring entries.
All theorems hold for an arbitrary position function, hence independently of MD5 (which is executable in `Crng/MD5.lean`
and compared with Go's crypto/md5 by the correspondence run). -/
namespace Crng.Props.C15
open Crng.CHash Crng.Ring

/-- the Go lookup returns the entry Carbon's rule designates: the least entry (position, host, instance) at or after the
key's position among all ring entries, wrapping around to the least entry of the ring -/
theorem lookup_eq_carbon (pos : Bytes → Nat) (replicas : Nat) (nodes : List Node) (hn : nodes ≠ []) (hr : 0 < replicas) (p : Nat) :
    ∃ e, lookupKey (ring pos replicas nodes) p = some e ∧ IsOwner keyOrd (entries pos replicas nodes) p e :=
  Crng.CHash.lookup_eq_carbon pos replicas nodes hn hr p

/-- Carbon's rule determines the owner uniquely, so agreement with it is agreement with carbon-relay.py -/
theorem owner_unique (S : List Key) (k : Nat) (a b : Key) (ha : IsOwner keyOrd S k a) (hb : IsOwner keyOrd S k b) : a = b :=
  Crng.Ring.owner_unique keyOrd S k a b ha hb

/-- the same destinations listed in any order (and, since only membership matters, with any duplicates) give the same owner -/
theorem order_independent (pos : Bytes → Nat) (replicas : Nat) (ns1 ns2 : List Node) (h : ∀ n, n ∈ ns1 ↔ n ∈ ns2)
    (hn : ns1 ≠ []) (hr : 0 < replicas) (p : Nat) :
    lookupKey (ring pos replicas ns1) p = lookupKey (ring pos replicas ns2) p :=
  Crng.CHash.order_independent pos replicas ns1 ns2 h hn hr p

/-- each metric goes to exactly one configured destination -/
theorem one_destination (pos : Bytes → Nat) (replicas : Nat) (nodes : List Node) (hn : nodes ≠ []) (hr : 0 < replicas) (name : Bytes) :
    ∃ i, destIndex pos replicas nodes name = some i ∧ i < nodes.length :=
  Crng.CHash.one_destination pos replicas nodes hn hr name

/-- adding a destination moves only keys that land on the new destination -/
theorem add_minimal (pos : Bytes → Nat) (replicas : Nat) (ns : List Node) (n : Node) (hn : ns ≠ []) (hr : 0 < replicas) (p : Nat)
    (e e' : Key) (h : lookupKey (ring pos replicas ns) p = some e) (h' : lookupKey (ring pos replicas (ns ++ [n])) p = some e') :
    e' = e ∨ (e'.2.1 = n.host ∧ e'.2.2 = n.inst) :=
  Crng.CHash.add_minimal pos replicas ns n hn hr p e e' h h'

/-- removing a destination moves only the keys it owned -/
theorem remove_minimal (pos : Bytes → Nat) (replicas : Nat) (ns : List Node) (n : Node) (hn : ns ≠ []) (hr : 0 < replicas) (p : Nat)
    (e : Key) (h : lookupKey (ring pos replicas (ns ++ [n])) p = some e) (hnot : e ∈ entries pos replicas ns) :
    lookupKey (ring pos replicas ns) p = some e :=
  Crng.CHash.remove_minimal pos replicas ns n hn hr p e h hnot

/-- host, port and instance from `h`, `h:p`, `h:p:i` ("a", "a:1", "a:1:b") -/
theorem addr_split :
    nodeOfAddr [97] = ⟨[97], []⟩ ∧ nodeOfAddr [97, 58, 49] = ⟨[97], []⟩ ∧ nodeOfAddr [97, 58, 49, 58, 98] = ⟨[97], [98]⟩ := by decide

/-- non-vacuity: the hypotheses are met by any non-empty destination list with Carbon's 100 replicas; the theorems then
apply to the real position function -/
example (nodes : List Node) (n : Node) (name : Bytes) :
    ∃ i, destIndex Crng.MD5.ringPos 100 (n :: nodes) name = some i ∧ i < (n :: nodes).length :=
  one_destination Crng.MD5.ringPos 100 (n :: nodes) (by simp) (by omega) name

end Crng.Props.C15
