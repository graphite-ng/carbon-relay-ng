import Crng.Table
/-! # C01 — every accepted metric reaches exactly the matching routes and destinations
Model: `Crng/Table.lean` — `dispatch` follows `Table.Dispatch` (validate → blacklist loop with return → rewriter fold →
aggregator loop with return on drop-raw → join → route loop with the `routed` flag), `Route.dispatch` follows
`SendAllMatch/SendFirstMatch.Dispatch` (loop, loop with `break`). Filters are arbitrary decision procedures. -/
namespace Crng.Props.C01
open Crng.Tb

/-- Every line that is valid, not blacklisted and not consumed by a drop-raw aggregation is handed to exactly the routes
whose filter accepts its **rewritten** name — each once, in table order, no other route; it is counted unroutable
exactly when there is no such route; the line delivered is the rewritten name followed by the received value and
timestamp tokens; and none of the rejection flags is raised. -/
theorem routes_exact (c : Cfg) (line name val ts : Bytes) (hv : c.validate line = some (name, val, ts))
    (hb : c.blacklist.any (·.match name) = false)
    (hc : (aggLoop c.useNot (c.rewriters.foldl (fun n f => f n) name) c.aggs 0).2 = false) :
    ((dispatch c line).hits.map (·.1) = idxFilter (·.matcher.match (c.rewriters.foldl (fun n f => f n) name)) c.routes 0) ∧
    ((dispatch c line).unroutable = (idxFilter (·.matcher.match (c.rewriters.foldl (fun n f => f n) name)) c.routes 0).isEmpty) ∧
    (dispatch c line).final = join3 (c.rewriters.foldl (fun n f => f n) name) val ts ∧
    (dispatch c line).invalid = false ∧ (dispatch c line).blacklisted = false :=
  Crng.Tb.routes_exact c line name val ts hv hb hc

/-- unroutable ⇔ no route accepts (same hypotheses) -/
theorem unroutable_iff (c : Cfg) (line name val ts : Bytes) (hv : c.validate line = some (name, val, ts))
    (hb : c.blacklist.any (·.match name) = false)
    (hc : (aggLoop c.useNot (c.rewriters.foldl (fun n f => f n) name) c.aggs 0).2 = false) :
    (dispatch c line).unroutable = true ↔ ∀ r ∈ c.routes, r.matcher.match (c.rewriters.foldl (fun n f => f n) name) = false := by
  rw [(routes_exact c line name val ts hv hb hc).2.1, idxFilter_isEmpty]
  simp

/-- send-all-match forwards to every destination whose filter accepts, in configured order -/
theorem sendAll_exact (x : Bytes) (ds : List Matcher) : sendAllLoop x ds 0 = idxFilter (·.match x) ds 0 :=
  Crng.Tb.sendAll_exact x ds 0

/-- send-first-match forwards only to the first such destination -/
theorem sendFirst_exact (x : Bytes) (ds : List Matcher) : sendFirstLoop x ds 0 = (idxFilter (·.match x) ds 0).take 1 :=
  Crng.Tb.sendFirst_exact x ds 0

/-- a blacklisted metric is counted as blacklisted and forwarded nowhere (no route, no aggregation, not unroutable) -/
theorem blacklisted_nowhere (c : Cfg) (line name val ts : Bytes) (hv : c.validate line = some (name, val, ts))
    (hb : c.blacklist.any (·.match name) = true) :
    (dispatch c line).blacklisted = true ∧ (dispatch c line).hits = [] ∧ (dispatch c line).aggIn = [] ∧
    (dispatch c line).unroutable = false :=
  Crng.Tb.blacklisted_nowhere c line name val ts hv hb

/-- the outcomes partition: at most one of invalid / blacklisted / consumed / unroutable holds, and when none holds
the line was handed to at least one route -/
theorem outcome_partition (c : Cfg) (line : Bytes) :
    let r := dispatch c line
    (r.invalid → ¬ r.blacklisted ∧ ¬ r.consumed ∧ ¬ r.unroutable ∧ r.hits = []) ∧
    (r.blacklisted → ¬ r.consumed ∧ ¬ r.unroutable ∧ r.hits = []) ∧
    (r.consumed → ¬ r.unroutable ∧ r.hits = []) ∧
    (r.unroutable = true ↔ (¬ r.invalid ∧ ¬ r.blacklisted ∧ ¬ r.consumed ∧ r.hits = [])) := by
  rcases dispatch_cases c line with h | h | ⟨_, h⟩ | ⟨_, _, _, h⟩ <;> simp [h]

/-- non-vacuity: a three-route table with overlapping filters, a blacklist entry and a rewriter -/
example :
    let any : Rx := { accepts := fun _ => true, pre := [] }
    let c : Cfg := {
      validate := fun l => some (l, [49], [50]),
      blacklist := [{ prefix_ := [120] }],
      rewriters := [fun n => 97 :: n],
      aggs := [],
      routes := [{ matcher := { prefix_ := [97] }, kind := .sendAll, dests := [{}, { notPrefix := [97] }, { regex := some any }] },
                 { matcher := { prefix_ := [98] }, kind := .sendFirst, dests := [{}] },
                 { matcher := {}, kind := .sendFirst, dests := [{ notPrefix := [97] }, {}, {}] }] }
    (dispatch c [98]).hits = [(0, [0, 2]), (2, [1])] ∧ (dispatch c [120]).blacklisted = true := by
  decide

end Crng.Props.C01
