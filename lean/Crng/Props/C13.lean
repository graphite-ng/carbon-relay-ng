import Crng.PickleIn
/-! # C13 — pickle input is equivalent to the plain-text input for the same datapoints
`Crng/PickleIn.lean`: the frame loop of `Pickle.Handle` over the delivered stream and the item conversion; og-rek's decoder
is a parameter. What og-rek returns for CPython's pickles is external (observed by the correspondence run). -/
namespace Crng.Props.C13
open Crng.PkIn

/-- the effect of one decoded frame (`frameStep` is the item loop of the model): every item that converts is dispatched,
in order; every other item is counted invalid once; items do not affect one another -/
theorem item_independence (items : List V) (o : Out) :
    (items.foldl frameStep o).tokens = o.tokens ++ items.filterMap convert ∧
    (items.foldl frameStep o).invalid = o.invalid + (items.filter (fun it => (convert it).isNone)).length ∧
    (items.foldl frameStep o).err = o.err := by
  induction items generalizing o with
  | nil => simp
  | cons it items ih =>
    obtain ⟨h1, h2, h3⟩ := ih (frameStep o it)
    simp only [List.foldl_cons]
    rw [h1, h2, h3]
    unfold frameStep
    cases hc : convert it with
    | some line => simp [hc, List.append_assoc]
    | none => simp [hc]; omega

/-- a well-formed item `(name, (ts, value))` with integer fields becomes `name value ts`, integers verbatim -/
theorem convert_spec (name : Bytes) (ts v : Int) :
    convert (.tuple [.str name, .tuple [.int ts, .int v]]) = some (name ++ [32] ++ str (toString v) ++ [32] ++ str (toString ts)) := rfl

/-- the same with lists instead of tuples, string fields verbatim, a long timestamp verbatim, floats through %f / %.0f -/
theorem convert_spec_list (name s : Bytes) (z : Int) (b : Nat) :
    convert (.list [.str name, .list [.big z, .str s]]) = some (name ++ [32] ++ s ++ [32] ++ str (toString z)) ∧
    convert (.tuple [.str name, .tuple [.float b, .float b]]) =
      some (name ++ [32] ++ str (Crng.FloatFmt.fmt6Bits (UInt64.ofNat b)) ++ [32] ++ str (Crng.FloatFmt.fmt0Bits (UInt64.ofNat b))) := ⟨rfl, rfl⟩

/-- structurally invalid items are skipped (counted by `item_independence`): wrong arity, a name that is not a string,
data that is not a pair, unrepresentable scalars -/
theorem invalid_item_skipped (a b c : V) (name : Bytes) :
    convert (.tuple [a]) = none ∧ convert (.tuple [a, b, c]) = none ∧ convert (.tuple [.other, b]) = none ∧
    convert (.tuple [.int 1, b]) = none ∧ convert (.tuple [.str name, .int 5]) = none ∧
    convert (.tuple [.str name, .tuple [.other, .int 1]]) = none ∧ convert (.tuple [.str name, .tuple [.int 1, .other]]) = none ∧
    convert .other = none := by
  refine ⟨rfl, rfl, rfl, rfl, rfl, rfl, rfl, rfl⟩

/-- a malformed frame ends the connection with an error and nothing of it is dispatched: oversized length, unknown
protocol prefix, a payload shorter than announced, a length cut short -/
theorem malformed_ends_connection (decode : Bytes → Dec) (maxLen : Nat) (clean : Bool) (fuel : Nat) (s : Bytes) (o : Out)
    (hne : s ≠ [])
    (h : s.length < 4 ∨ be32 (s.take 4) > maxLen ∨ checkProtocol (s.drop 4) = false ∨ (s.drop 4).length < be32 (s.take 4)) :
    handle decode maxLen clean (fuel + 1) s o = { o with err := true } := by
  unfold handle
  simp only [List.isEmpty_eq_false_iff.mpr hne, Bool.false_eq_true, if_false]
  by_cases h1 : s.length < 4
  · simp [h1]
  · simp only [h1, if_false]
    by_cases h2 : be32 (s.take 4) > maxLen
    · simp [h2]
    · simp only [h2, if_false]
      by_cases h3 : checkProtocol (s.drop 4) = false
      · simp [h3]
      · have h3' : checkProtocol (s.drop 4) = true := by simpa using h3
        simp only [h3', Bool.not_true, Bool.false_eq_true, if_false]
        have h4 : (s.drop 4).length < be32 (s.take 4) := ((h.resolve_left h1).resolve_left h2).resolve_left h3
        simp only [h4, if_true]

/-- a clean end of stream between frames is not an error -/
theorem clean_end (decode : Bytes → Dec) (maxLen : Nat) (fuel : Nat) (o : Out) :
    handle decode maxLen true (fuel + 1) [] o = o := by simp [handle]

/-- non-vacuity: one frame "]…" of length 3 whose decoded list holds a good and a bad item -/
example :
    let dec : Bytes → Dec := fun _ => .ok (.list [.tuple [.str [97], .tuple [.int 15, .int 1]], .tuple [.other, .other]])
    (run dec true [0, 0, 0, 3, 93, 113, 0]).tokens.length = 1 ∧ (run dec true [0, 0, 0, 3, 93, 113, 0]).invalid = 1 ∧
    (run dec true [0, 0, 0, 3, 93, 113, 0]).err = false ∧ (run dec true [0, 0, 0, 9, 93]).err = true := by
  refine ⟨by decide, by decide, by decide, by decide⟩

end Crng.Props.C13
