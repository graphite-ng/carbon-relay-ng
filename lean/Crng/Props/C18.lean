import Crng.GoSlice
/-! # C18 — runtime table changes are atomic with respect to traffic
`Crng/GoSlice.lean`: Go slice headers over shared backing arrays with Go's `append` (in place when len < cap, else a
fresh array with arbitrary spare capacity). The published configuration holds slice headers; `Dispatch` loads it once
(regenerated fact) and then reads elements through the header it holds, interleaved arbitrarily with mutators; mutators
are serialised by the table/route mutex (regenerated fact). -/
namespace Crng.Props.C18
open Crng.GoSlice
variable {α : Type} [Inhabited α]

/-- **snapshot isolation**: if every update idiom used by the mutators is `safe` (never writes a cell that a published
header can see) then, for every history of updates and every spare-capacity behaviour of `append`, a header loaded at any
earlier point still shows exactly the elements it showed when it was loaded. A dispatcher therefore processes each metric
against the table as it was at its `Load` — entirely before or entirely after each change; nothing present both before and
after a change is skipped or visited twice. -/
theorem isolation (slack : Nat) (ops : List (Op α)) (h : Heap α) (cur : Hdr) (pubs : List Hdr)
    (inv : Inv h cur pubs) (hs : ∀ op ∈ ops, safe op = true) :
    ∀ p ∈ cur :: pubs, view (run slack (h, cur) pubs ops).1 p = view h p :=
  Crng.GoSlice.isolation slack ops h cur pubs inv hs

/-- **the table view reflects exactly the sequence of changes**: the published list after any history is the fold of the
list operations (append at the end, erase exactly the indexed entry; an index beyond the end erases nothing) -/
theorem ops_refine_list (slack : Nat) (ops : List (Op α)) (h : Heap α) (cur : Hdr) (pubs : List Hdr) (wf : WF h cur)
    (hs : ∀ op ∈ ops, safe op = true) :
    view (run slack (h, cur) pubs ops).1 (run slack (h, cur) pubs ops).2.1 = ops.foldl specOp (view h cur) :=
  Crng.GoSlice.run_view slack ops h cur pubs wf hs

/-- the in-place delete idiom is *not* safe: the witness the unrepaired code exhibited -/
theorem deleteInPlace_breaks :
    view (step (α := Nat) 0 ([[1, 2, 3]], ⟨0, 3, 3⟩) (.deleteInPlace 0)).1 ⟨0, 3, 3⟩ = [2, 3, 3] := by decide

/-- non-vacuity: from the empty table, add three entries, delete the first (repaired idiom), add one more: the header held
before the delete still shows the three original entries, the current one shows the expected list -/
example :
    let ops : List (Op Nat) := [.appendElem 1, .appendElem 2, .appendElem 3]
    let st := run 1 ([[]], ⟨0, 0, 0⟩) [] ops
    let st2 := run 1 (st.1, st.2.1) st.2.2 [.deleteFull 0, .appendElem 4]
    view st2.1 st.2.1 = [1, 2, 3] ∧ view st2.1 st2.2.1 = [2, 3, 4] := by decide

end Crng.Props.C18
