import Crng.Table
import Crng.Regex
import Crng.AggCache
/-! # C03 — filters mean exactly the documented conjunction, evaluated on the metric name
`Matcher.match` / `preMatch` are `matcher.go` statement by statement, including the two prefix shortcuts;
`soundPrefix` is the prefix derivation on a regex AST with an over-approximating match relation `M`
(`Crng/Regex.lean`); `Crng/AggCache.lean` is `matchWithCache`. -/
namespace Crng.Props.C03
open Crng.Tb

/-- every string matched (unanchored search) by a regex starts with the prefix derived from its AST — for all regex ASTs
(alternation, optional/starred atoms, groups, anchors) and all names -/
theorem soundPrefix_sound (r : Crng.Re) (s : Crng.Bytes) (h : Crng.Search r s) : Crng.soundPrefix r <+: s :=
  Crng.soundPrefix_sound r s h

/-- any derived prefix that is itself a prefix of the sound one is safe: it can only be shorter -/
theorem prefixOK_of_le (r : Rx) (ast : Crng.Re) (hsem : ∀ s, r.accepts s = true → Crng.Search ast s)
    (hle : r.pre <+: Crng.soundPrefix ast) : r.PrefixOK := by
  intro s hs
  rw [hasPrefix_iff]
  exact List.IsPrefix.trans hle (Crng.soundPrefix_sound ast s (hsem s hs))

/-- **the shortcuts never change the decision**: with sound derived prefixes, `Match` is exactly
prefix ∧ ¬notPrefix ∧ sub ∧ ¬notSub ∧ regex ∧ ¬notRegex, an empty option imposing no constraint -/
theorem match_eq_conj6 (m : Matcher) (h : m.PrefixOK) (s : Bytes) : m.match s = m.spec s :=
  Crng.Tb.match_eq_spec m h s

/-- the decision is a function of the bytes passed alone (it is a pure function of `s`); the call sites pass the name
(regenerated fact `Crng.Tie.C03.matchArgs_ok`) -/
theorem name_only (m : Matcher) (s₁ s₂ : Bytes) (h : s₁ = s₂) : m.match s₁ = m.match s₂ := by rw [h]

/-- an aggregation consumes a name (pre-match, then the regex stage that also consults notRegex) iff the complete
six-condition filter accepts it -/
theorem agg_filter_complete (m : Matcher) (h : m.PrefixOK) (s : Bytes) :
    (m.preMatch s && m.regexStage true s) = m.spec s :=
  Crng.Tb.preMatch_regexStage m h s

/-- the per-aggregator match cache is transparent: for every history of lookups and arbitrary expiries the cached
answers are those of the uncached function -/
theorem cache_transparent {K V : Type} [DecidableEq K] (f : K → V) (ops : List (Crng.AC.Op K)) :
    Crng.AC.run f [] ops = Crng.AC.spec f ops :=
  Crng.AC.cache_transparent f ops [] (by intro e he; cases he)

/-- non-vacuity: the regex `^ab?c` (AST below) matches "ac"; its sound prefix is "a", which "ac" starts with -/
example :
    let ast : Crng.Re := .cat .beginText (.cat (.litA 97) (.cat (.opt (.litA 98)) (.litA 99)))
    Crng.soundPrefix ast = [97] ∧ Crng.Search ast [97, 99] := by
  refine ⟨rfl, 0, 2, ?_⟩
  exact .cat .beginText (.cat (.litA rfl) (.cat .optNone (.litA rfl)))

end Crng.Props.C03
