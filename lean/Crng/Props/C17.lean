import Crng.GNet
/-! # C17 — grafana.net route: retry until acknowledged, series order kept, shutdown drains
`Crng/GNet.lean`: one worker of the route (`run` / `retryFlush`) over an outcome stream, and the shutdown protocol
(N workers, one signal channel, one WaitGroup). Sharding by series name and the two dispatch modes are regenerated facts. -/
namespace Crng.Props.C17
open Crng.GN

/-- the worker after a whole history of events -/
def runEvs (maxNum : Nat) : Wk → List Ev → Wk
  | w, [] => w
  | w, e :: es => runEvs maxNum (step maxNum w e) es

/-- **retry never skips or reorders**: over any history of receives, timer flushes, shutdown and any sequence of server
answers, acknowledged batches ++ current batch ++ queued metrics is exactly what the worker accepted, in arrival order:
a failed batch is retried unchanged; per-series order follows because one series always goes to one worker -/
theorem retry_never_skips (maxNum : Nat) (w : Wk) (es : List Ev) : (runEvs maxNum w es).all = w.all := by
  induction es generalizing w with
  | nil => rfl
  | cons e es ih => simp only [runEvs]; rw [ih, step_all]

/-- the acknowledged metrics are always a prefix of the accepted ones, in arrival order -/
theorem acked_prefix (maxNum : Nat) (w : Wk) (es : List Ev) (h : w.acked = [] ∧ w.batch = []) :
    (runEvs maxNum w es).acked.flatten <+: good w.queue := by
  have := retry_never_skips maxNum w es
  simp only [Wk.all, h.1, h.2, List.flatten_nil, List.nil_append] at this
  exact ⟨(runEvs maxNum w es).batch ++ good (runEvs maxNum w es).queue, by rw [← List.append_assoc]; exact this⟩

/-- with finitely many failures before the next success, a flush ends with the batch acknowledged -/
theorem flush_acks (w : Wk) : (flushNow w).batch = [] :=
  retryFlush_acks (w.outcomes.length + 1) w (Nat.lt_succ_self _)

/-- **shutdown drains**: after the shutdown event (drain the shard queue, then flush) nothing is left buffered: every
accepted metric that parses is in an acknowledged batch -/
theorem shutdown_drains (maxNum : Nat) (w : Wk) :
    (step maxNum w (.shutdown true)).batch = [] := by
  simp only [step]
  exact flush_acks _

/-- `Shutdown()` returns for every number of workers when the signal reaches all of them and each calls `Done` on exit -/
theorem shutdown_returns (n : Nat) (p : Proto) (hb : p.broadcast = true) (hd : p.doneOnExit = true) : shutdownReturns p n = true :=
  shutdown_ok p n hb hd

/-- the protocol that was repaired (one send, `Done` unreachable) never returns -/
theorem old_shutdown_hangs (n : Nat) (hn : 0 < n) : shutdownReturns ⟨false, false, false⟩ n = false := shutdown_hangs n hn

/-- non-vacuity: batches of two, a failed first attempt: everything is acknowledged, in order, one error counted -/
example :
    let w : Wk := { queue := [(0, true), (1, true), (2, false), (3, true)], outcomes := [.fail, .ok] }
    let r := runEvs 2 w [.recv, .recv, .recv, .recv, .shutdown true]
    r.acked = [[0, 1], [3]] ∧ r.errs = 1 ∧ r.batch = [] ∧ r.queue = [] := by decide

end Crng.Props.C17
