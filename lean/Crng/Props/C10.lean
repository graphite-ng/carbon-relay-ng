import Crng.AggProofs
import Crng.Aggregator
/-! # C10 — aggregations emit exactly one point per bucket, once, in order
Model: `Crng/AggCore.lean` (bucket bookkeeping of `AddOrCreate`/`Flush`, generic in the processor) instantiated by
`Crng/Aggregator.lean` (the ten processors over IEEE doubles, `%f` output) — the latter is what the driver runs. -/
namespace Crng.Props.C10
open Crng.Agg Crng.AggCore

/-- an event of the executable aggregator, as the generic bookkeeping sees it -/
def toG (cfg : Cfg) : Crng.Agg.Ev → Crng.AggCore.Ev PS
  | .point key ts v now =>
      .point ((PS.new cfg.fn v ts).getD (.sum v)) (fun p => p.add v ts) key (ts - ts % cfg.interval) (u64 (u64 now - cfg.wait))
  | .tick now => .tick (u64 (now - cfg.wait))

theorem step_eq (cfg : Cfg) (s : Crng.Agg.St) (e : Crng.Agg.Ev) :
    Crng.Agg.step cfg s e = stepG PS.flush s (toG cfg e) := by
  cases e <;> rfl

/-- everything the executable aggregator emits over a history -/
def emitted (cfg : Cfg) : Crng.Agg.St → List Crng.Agg.Ev → List Crng.Agg.Em
  | _, [] => []
  | s, e :: es => (Crng.Agg.step cfg s e).2 ++ emitted cfg (Crng.Agg.step cfg s e).1 es

theorem emitted_eq (cfg : Cfg) : ∀ (es : List Crng.Agg.Ev) (s : Crng.Agg.St),
    emitted cfg s es = runG PS.flush s [] (es.map (toG cfg)) := by
  intro es
  induction es with
  | nil => intro s; rfl
  | cons e es ih => intro s; rw [emitted, List.map_cons, runG_cons, step_eq, ih]

/-- the clock hypothesis of the property ("non-decreasing clock"): a point's threshold `now - wait` is never below the
cutoff of an earlier tick -/
def ClockOK (cfg : Cfg) (es : List Crng.Agg.Ev) : Prop := Crng.AggCore.ClockOK 0 (es.map (toG cfg))

/-- **No bucket is emitted twice.** For every rule (function, interval, wait) and every history of points and ticks
under a clock that does not run backwards, no `(bucket start, output key)` pair occurs twice in the emitted lines
(percentiles: one emission record carrying one line per percentile). -/
theorem emit_once (cfg : Cfg) (es : List Crng.Agg.Ev) (h : ClockOK cfg es) :
    Distinct (emitted cfg {} es) := by
  rw [emitted_eq]; exact Crng.AggCore.emit_once PS.flush _ h

/-- **Ascending order.** Over the whole run emitted bucket starts never decrease. -/
theorem emit_ascending (cfg : Cfg) (es : List Crng.Agg.Ev) (h : ClockOK cfg es) :
    (emitted cfg {} es).Pairwise (fun a b => a.ts ≤ b.ts) := by
  rw [emitted_eq]; exact Crng.AggCore.emit_ascending PS.flush _ h

/-- **Late points are counted, not aggregated.** A point whose bucket is not open any more (`quantized ≤ now - wait`)
and for which no state exists creates no processor state and increments the too-old counter. -/
theorem late_is_counted {P : Type} (mk : P) (upd : P → P) (s : Crng.AggCore.St P) (key : String) (q : Nat)
    (hnew : ∀ ks, lookupB s.aggs q = some ks → ks.find? (·.1 == key) = none) :
    (Crng.AggCore.addOrCreate false mk upd s key q).tooOld = s.tooOld + 1 ∧
    ∀ ks, lookupB (Crng.AggCore.addOrCreate false mk upd s key q).aggs q = some ks → ks.find? (·.1 == key) = none := by
  unfold Crng.AggCore.addOrCreate
  cases hl : lookupB s.aggs q with
  | some ks =>
    have hk := hnew ks hl
    simp only [hk]
    refine ⟨rfl, fun ks' h' => ?_⟩
    obtain rfl : ks = ks' := Option.some.inj (hl.symm.trans h')
    exact hk
  | none =>
    refine ⟨rfl, fun ks' h' => ?_⟩
    obtain rfl : [] = ks' := Option.some.inj ((lookupB_append_self hl []).symm.trans h')
    rfl

/-- non-vacuity: interval 10, wait 20 — two points of one bucket, one late point after the flush; clock hypothesis holds
and exactly one line comes out -/
example :
    let cfg : Cfg := { fn := "sum", interval := 10, wait := 20 }
    let es : List Crng.Agg.Ev := [.point "a" 1003 1.0 1005, .point "a" 1007 2.0 1008, .tick 1030, .point "a" 1004 5.0 1031, .tick 1040]
    ClockOK cfg es ∧ ((emitted cfg {} es).map (·.ts)) = [1000] := by
  refine ⟨?_, by decide⟩
  simp only [ClockOK, List.map, toG, Crng.AggCore.ClockOK]
  decide

end Crng.Props.C10
