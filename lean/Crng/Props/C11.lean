import Crng.Table
import Crng.Props.C03
/-! # C11 — aggregation output bypasses the pipeline and cannot loop; drop-raw is exact -/
namespace Crng.Props.C11
open Crng.Tb

/-- aggregation output is only routed: never validated, blacklisted, rewritten, and never fed to any aggregation
(no aggregation input results from it), whatever the rule set — a rule whose output name matches its own filter included -/
theorem aggregate_only_routes (c : Cfg) (nameOf : Bytes → Bytes) (buf : Bytes) :
    (dispatchAggregate c nameOf buf).aggIn = [] ∧ (dispatchAggregate c nameOf buf).invalid = false ∧
    (dispatchAggregate c nameOf buf).blacklisted = false ∧ (dispatchAggregate c nameOf buf).consumed = false ∧
    (dispatchAggregate c nameOf buf).final = buf :=
  Crng.Tb.aggregate_only_routes c nameOf buf

/-- it goes to every route matching its name, each once, in table order (no other), and is unroutable iff there is none -/
theorem aggregate_routes_exact (c : Cfg) (nameOf : Bytes → Bytes) (buf : Bytes) :
    (dispatchAggregate c nameOf buf).hits.map (·.1) = idxFilter (·.matcher.match (nameOf buf)) c.routes 0 ∧
    (dispatchAggregate c nameOf buf).unroutable = (idxFilter (·.matcher.match (nameOf buf)) c.routes 0).isEmpty :=
  ⟨routeLoop_exact .., routeLoop_isEmpty ..⟩

/-- **no amplification**: one received line reaches each aggregation at most once (strictly increasing indices),
so the causal chain raw → aggregate → routes has length two for every rule set -/
theorem no_amplification (useNot : Bool) (name : Bytes) (as : List Agg) :
    (aggLoop useNot name as 0).1.length ≤ as.length ∧ (aggLoop useNot name as 0).1.Pairwise (· < ·) :=
  ⟨(Crng.Tb.aggLoop_bounded useNot name as 0).1, (Crng.Tb.aggLoop_bounded useNot name as 0).2.1⟩

/-- **drop-raw is exact**: the raw metric is withheld (from later aggregations and all routes) iff some drop-raw
aggregation's *complete* six-condition filter accepts its name -/
theorem dropraw_exact (name : Bytes) (as : List Agg) (h : ∀ a ∈ as, a.matcher.PrefixOK) :
    (aggLoop true name as 0).2 = as.any (fun a => a.dropRaw && a.matcher.spec name) := by
  rw [Crng.Tb.aggLoop_consumed_iff, Bool.eq_iff_iff, List.any_eq_true, List.any_eq_true]
  refine exists_congr fun a => and_congr_right fun ha => ?_
  rw [← Crng.Props.C03.agg_filter_complete a.matcher (h a ha) name, Bool.and_assoc]

/-- a consumed line reaches no route and is not counted unroutable -/
theorem consumed_withheld (c : Cfg) (line name val ts : Bytes) (hv : c.validate line = some (name, val, ts))
    (hb : c.blacklist.any (·.match name) = false)
    (hc : (aggLoop c.useNot (c.rewriters.foldl (fun n f => f n) name) c.aggs 0).2 = true) :
    (dispatch c line).hits = [] ∧ (dispatch c line).unroutable = false ∧ (dispatch c line).consumed = true := by
  rw [dispatch_of_valid hv hb]
  simp [hc]

/-- **every other metric is unaffected**: a line that no drop-raw aggregation consumes is routed exactly as it would be in
the same table without any aggregations -/
theorem others_unaffected (c : Cfg) (line name val ts : Bytes) (hv : c.validate line = some (name, val, ts))
    (hc : (aggLoop c.useNot (c.rewriters.foldl (fun n f => f n) name) c.aggs 0).2 = false) :
    (dispatch c line).hits = (dispatch { c with aggs := [] } line).hits ∧
    (dispatch c line).unroutable = (dispatch { c with aggs := [] } line).unroutable ∧
    (dispatch c line).final = (dispatch { c with aggs := [] } line).final := by
  cases hb : c.blacklist.any (·.match name) with
  | true => rw [dispatch_of_blacklisted hv hb, dispatch_of_blacklisted (c := { c with aggs := [] }) hv hb]; exact ⟨rfl, rfl, rfl⟩
  | false =>
    rw [dispatch_of_valid hv hb, dispatch_of_valid (c := { c with aggs := [] }) hv hb]
    simp [hc, aggLoop]

/-- non-vacuity: a drop-raw rule (prefix "a") followed by a plain one: "ab" is consumed by the first and withheld from the
second; "b" reaches the second only and is routed -/
example :
    let as : List Agg := [{ matcher := { prefix_ := [97] }, dropRaw := true }, { matcher := {}, dropRaw := false }]
    aggLoop true [97, 98] as 0 = ([0], true) ∧ aggLoop true [98] as 0 = ([1], false) := by decide

end Crng.Props.C11
