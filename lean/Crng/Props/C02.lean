import Crng.Table
import Crng.Validate
import Crng.BadMetrics
/-! # C02 — only valid metrics are forwarded; every rejection is counted and reported
`Crng/Validate.lean` is a byte-level transcription of go-metrics20 `ValidatePacket` (three fields under
`bytes.Fields`, version detection, legacy / metrics2.0 key rules incl. the tag appendix, Go's float grammar);
`Crng/Table.lean` is the gate in `Table.Dispatch`; `Crng/BadMetrics.lean` the report. -/
namespace Crng.Props.C02
open Crng.Tb

/-- the table's validator instantiated with the transcription of `ValidatePacket` at the configured levels -/
def validateAt (ll : Crng.Val.LegacyLevel) (ml : Crng.Val.M20Level) (line : Bytes) : Option (Bytes × Bytes × Bytes) :=
  match (Crng.Val.validatePacket line ll ml).2, Crng.Val.fields line with
  | none, [n, v, t] => some (n, v, t)
  | _, _ => none

/-- a line passes the gate iff `ValidatePacket` reports no error (for each of the 3×2 level combinations) -/
theorem gate_iff (ll : Crng.Val.LegacyLevel) (ml : Crng.Val.M20Level) (line : Bytes) :
    (validateAt ll ml line).isSome = ((Crng.Val.validatePacket line ll ml).2 == none) := by
  unfold validateAt
  cases h : (Crng.Val.validatePacket line ll ml).2 with
  | some e => rfl
  | none =>
    -- `ValidatePacket` reports no error only for a line of three fields
    unfold Crng.Val.validatePacket at h
    split at h
    · rename_i hf; rw [hf]; rfl
    · cases h

/-- **forwarded only if valid**: an invalid line is counted invalid and reaches no aggregation and no route,
is not counted blacklisted or unroutable -/
theorem invalid_effects (c : Cfg) (line : Bytes) (hv : c.validate line = none) :
    (dispatch c line).invalid = true ∧ (dispatch c line).hits = [] ∧ (dispatch c line).aggIn = [] ∧
    (dispatch c line).unroutable = false ∧ (dispatch c line).blacklisted = false :=
  Crng.Tb.invalid_nowhere c line hv

/-- **valid lines proceed**: a valid line is never counted invalid; what happens next is decided by blacklist,
aggregations and routes only (C01) -/
theorem valid_proceeds (c : Cfg) (line : Bytes) (t : Bytes × Bytes × Bytes) (hv : c.validate line = some t) :
    (dispatch c line).invalid = false := by
  obtain ⟨n, v, ts⟩ := t
  cases hb : c.blacklist.any (·.match n) with
  | true => rw [dispatch_of_blacklisted hv hb]
  | false =>
    rw [dispatch_of_valid hv hb]
    dsimp only
    split <;> rfl

/-- anything forwarded (a route hit or an aggregation input) implies the line was valid -/
theorem forwarded_only_if_valid (c : Cfg) (line : Bytes)
    (h : (dispatch c line).hits ≠ [] ∨ (dispatch c line).aggIn ≠ []) : (c.validate line).isSome := by
  cases hv : c.validate line with
  | some _ => rfl
  | none =>
    have := invalid_effects c line hv
    rcases h with h | h
    · exact absurd this.2.1 h
    · exact absurd this.2.2.1 h

/-- the bad-metrics report: the last rejection under a name stays visible to every `Get` whose window reaches back
to it, until it is overwritten by a newer rejection of that name or expires -/
theorem bad_report (s : Crng.Bad.St) (r : Crng.Bad.Rec) (ops : List Crng.Bad.Op) (hq : Crng.Bad.Quiet r ops) (o : Nat) (ho : o < r.seen) :
    ∃ l, (Crng.Bad.step (Crng.Bad.run (Crng.Bad.step s (.add r)).1 ops) (.get o)).2 = some l ∧ r ∈ l := by
  -- `add` puts the record in front, a quiet history keeps it, and `Get` filters by the window
  have hkept : r ∈ Crng.Bad.run (Crng.Bad.step s (.add r)).1 ops := Crng.Bad.mem_run r ops _ List.mem_cons_self hq
  exact ⟨_, rfl, List.mem_filter.mpr ⟨hkept, by simpa using ho⟩⟩

/-- non-vacuity: a table whose validator rejects one line and accepts another; both theorems' hypotheses are met.
(What the concrete `ValidatePacket` transcription accepts is not decidable by kernel reduction — it uses `String`
literals and loops — and is exercised by the correspondence stream `validator` instead.) -/
example :
    let c : Cfg := { validate := fun l => if l = [120] then none else some (l, [49], [50]), blacklist := [], rewriters := [],
                     aggs := [], routes := [{ matcher := {}, kind := .other, dests := [] }] }
    c.validate [120] = none ∧ (dispatch c [120]).invalid = true ∧ (dispatch c [120]).hits = [] ∧
    (c.validate [97]).isSome = true ∧ (dispatch c [97]).hits = [(0, [])] := by decide

end Crng.Props.C02
