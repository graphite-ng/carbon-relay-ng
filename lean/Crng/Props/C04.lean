import Crng.Table
import Crng.Rewriter
/-! # C04 — forwarded line = rewritten name + untouched value/timestamp; buffers isolated -/
namespace Crng.Props.C04
open Crng.Tb

/-- the delivered line is exactly three fields separated by single spaces: the name after folding the rewriters over it
in table order, then the value and timestamp tokens as `fields` returned them (byte-for-byte) — whatever the whitespace
layout and numeric spelling of the received line -/
theorem final_shape (c : Cfg) (line name val ts : Bytes) (hv : c.validate line = some (name, val, ts))
    (hb : c.blacklist.any (·.match name) = false)
    (hc : (aggLoop c.useNot (c.rewriters.foldl (fun n f => f n) name) c.aggs 0).2 = false) :
    (dispatch c line).final = (c.rewriters.foldl (fun n f => f n) name) ++ [32] ++ val ++ [32] ++ ts :=
  (Crng.Tb.routes_exact c line name val ts hv hb hc).2.2.1

/-- every route and destination that receives the metric receives that one line (there is one `final` per dispatch) and
the aggregations receive the same rewritten name -/
theorem same_copy (c : Cfg) (line : Bytes) :
    ∀ h ∈ (dispatch c line).hits, ∃ r, c.routes[h.1]? = some r := by
  intro x hx
  rcases dispatch_cases c line with h | h | ⟨_, h⟩ | ⟨_, _, _, h⟩ <;> rw [h] at hx
  · cases hx
  · cases hx
  · cases hx
  · -- the indices the route loop collects are a sublist of `0, …, routes.length - 1`
    have hm := List.mem_map_of_mem (f := (·.1)) hx
    rw [routeLoop_exact] at hm
    have := List.mem_range'_1.mp ((idxFilter_sublist _ _ _).subset hm)
    exact ⟨c.routes[x.1]'(by omega), List.getElem?_eq_getElem _⟩

/-- literal rule, `max = 0`: identity -/
theorem literal_max_zero (old new s : Bytes) (fuel : Nat) : Crng.Rw.replaceN old new fuel (some 0) s = s :=
  Crng.Rw.replaceN_zero old new s fuel

/-- literal rule whose `old` does not occur: identity -/
theorem literal_absent (old new : Bytes) (hold : old ≠ []) (fuel : Nat) (n : Option Nat) (s : Bytes)
    (h : ∀ i, Crng.Rw.hasPrefix (s.drop i) old = false) : Crng.Rw.replaceN old new fuel n s = s :=
  Crng.Rw.replaceN_absent old new hold fuel n s h

/-- literal rule: occurrences are replaced left to right, non-overlapping, at most `max` of them (`none` = -1 = all) -/
theorem literal_first (old new : Bytes) (hold : old ≠ []) (post : Bytes) (f : Nat) (n : Option Nat) (hn : n ≠ some 0) (pre : Bytes)
    (hno : ∀ i, i < pre.length → Crng.Rw.hasPrefix ((pre ++ old ++ post).drop i) old = false) :
    Crng.Rw.replaceN old new (pre.length + f + 1) n (pre ++ old ++ post) = pre ++ new ++ Crng.Rw.replaceN old new f (n.map (· - 1)) post :=
  Crng.Rw.replaceN_first old new hold post f n hn pre hno

/-- a rule is skipped when its not-clause substring occurs in the name -/
theorem not_clause_skips (old new not : Bytes) (max : Option Nat) (s : Bytes) (hn : not ≠ []) (hc : Crng.Rw.contains s not = true) :
    Crng.Rw.rwDo old new not max s = s :=
  Crng.Rw.rwDo_not_skips old new not max s hn hc

/-- non-vacuity: "a.a.a" with rule a→bb max 2 gives "bb.bb.a" -/
example : Crng.Rw.rwDo [97] [98, 98] [] (some 2) [97, 46, 97, 46, 97] = [98, 98, 46, 98, 98, 46, 97] := by decide

end Crng.Props.C04
