import Crng.Relay
/-! # C06 — a bad endpoint never stalls ingestion; steady-state losses are all counted
`Crng/Relay.lean`: the destination's relay loop as a total step function over its select cases. "Returns within a bounded
time" is, in the model, the fact that a hand-off is consumed by one step whose effect depends on the endpoint only through
two flags that are read, never awaited (connection present, queue full); that the real sends are `select … default` and
that dialing only happens in a separate goroutine are regenerated facts (`Crng.Tie.C06`). Real time, the Go scheduler and
the kernel are outside the model: the property is claimed as partial. -/
namespace Crng.Props.C06
open Crng.Relay

/-- every hand-off is consumed by one step (the step function is total) and lands in exactly one place: the connection
queue, the spool, or one of the three drop counters — for every sequence of events (any endpoint behaviour, any traffic) -/
theorem every_handoff_accounted (es : List Ev) : Acct (run {} es) :=
  run_acct es {} rfl

/-- one hand-off, whatever the state: exactly one of the five destinations of a line is incremented -/
theorem handoff_progress (s : St) :
    let s' := step s .handoff
    s'.handoffs = s.handoffs + 1 ∧
    (s'.enq + s'.spooled + s'.slowConn + s'.slowSpool + s'.downNoSpool = s.enq + s.spooled + s.slowConn + s.slowSpool + s.downNoSpool + 1) := by
  obtain ⟨h, _, _, a, b, c, d, n, -, -, eq⟩ := step_handoff s
  simp only [eq] at h ⊢
  omega

/-- **healthy steady state**: while the connection stays up every hand-off is put on the connection queue or counted as a
slow-connection drop; nothing is counted as connection-down, nothing is diverted -/
theorem steady_healthy (es : List Ev) (s : St) (hu : s.connUp = true) (hs : Steady true es) (ha : Acct s) :
    (run s es).handoffs - s.handoffs = ((run s es).enq - s.enq) + ((run s es).slowConn - s.slowConn) := by
  clear ha  -- not needed: `Quiet` gives `Acct` as a difference, and holds from any state
  obtain ⟨_, _, a, b, c, d, n, up, -, eq⟩ := run_quiet es s hs
  specialize up hu
  simp only [eq]
  omega

/-- **down without spooling**: while there is no connection and spooling is off, every hand-off increments the
connection-down drop counter (and nothing is enqueued) -/
theorem steady_down_nospool (es : List Ev) (s : St) (hu : s.connUp = false) (hsp : s.spool = false) (hs : Steady false es) :
    (run s es).downNoSpool + s.handoffs = (run s es).handoffs + s.downNoSpool ∧ (run s es).enq = s.enq :=
  Crng.Relay.steady_down_nospool es s hu hsp hs

/-- non-vacuity: queue of 2, three hand-offs while nobody reads, then the connection dies and two more arrive -/
example :
    let r := run {} [.connUp 2, .handoff, .handoff, .handoff, .connDie, .handoff, .handoff]
    r.handoffs = 5 ∧ r.enq = 2 ∧ r.slowConn = 1 ∧ r.downNoSpool = 2 := by decide

end Crng.Props.C06
