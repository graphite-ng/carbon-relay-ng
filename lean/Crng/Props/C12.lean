import Crng.FramingProofs
import Crng.ReadLineProofs
/-! # C12 — input framing is independent of how the network chops the stream
`Crng/Framing.lean`: the incremental scanner (`bufio.Scanner` with `ScanLines`, 64 KiB token limit) as `feed`/`finish` over
a carry buffer; `spec` = the newline-delimited lines of the whole stream. `Crng/ReadLine.lean`: `bufio.Reader.ReadLine`
with a 4096-byte buffer as the AMQP consumer uses it. UDP datagrams and AMQP bodies are each their own stream. -/
namespace Crng.Props.C12
open Crng.Fr

/-- **segmentation invariance**: however the stream is cut into reads — any cut positions, one-byte reads, empty reads, the
last data arriving together with EOF or a read error — the handler processes exactly the newline-delimited lines of the
concatenation (one trailing CR removed, a final unterminated line included), in order, each once. A metric split across
segments is never processed as two fragments. The only error is a line of `max` bytes or more (see `limit_exact`),
after which nothing further is delivered. -/
theorem chunk_invariance (max : Nat) (hmax : 0 < max) (chunks : List Bytes) :
    run max {} chunks [] = spec max chunks.flatten :=
  Crng.Fr.chunk_invariance max hmax chunks

/-- the supported limit, stated explicitly: a line of `max - 1` bytes is processed whole, a line of `max` bytes ends the
stream with an error (TCP/UDP: max = 65536) -/
theorem limit_exact (max : Nat) (hmax : 1 < max) :
    spec max (List.replicate (max - 1) 120 ++ [10]) = ⟨[List.replicate (max - 1) 120], false⟩ ∧
    spec max (List.replicate max 120 ++ [10]) = ⟨[], true⟩ := by
  have hx : ∀ n, (10 : UInt8) ∉ List.replicate n 120 := fun n h => by cases List.eq_of_mem_replicate h
  constructor
  · have hcr : dropCR (List.replicate (max - 1) (120 : UInt8)) = List.replicate (max - 1) 120 := by
      unfold dropCR
      have : (List.replicate (max - 1) (120 : UInt8)).getLast? ≠ some 13 := by
        rw [List.getLast?_replicate]; split <;> simp
      simp [this]
    rw [spec_line max (hx _), if_neg (by simp; omega), hcr]
    rfl
  · rw [spec_line max (hx _), if_pos (by simp)]

/-- **AMQP**: a message body whose lines are each shorter than the 4096-byte buffer is processed as exactly its
newline-delimited lines (CR of terminated lines removed, a final unterminated line included as received) -/
theorem amqp_whole_lines (body : Bytes) (hfit : Crng.RL.Fits 4096 (body.length + 2) body) :
    Crng.RL.amqpTokens 4096 body = Crng.RL.spec body :=
  Crng.RL.amqp_whole_lines 4096 body hfit

/-- non-vacuity: "ab\r\nc" delivered as "a", "", "b\r", "\nc" -/
example : run 65536 {} [[97], [], [98, 13], [10, 99]] [] = ⟨[[97, 98], [99]], false⟩ := by decide

end Crng.Props.C12
