import Crng.Framing
import Crng.Lines
namespace Crng.Fr
open Crng.Lines (takeWhile_append takeWhile_eq_self takeWhile_line split_line)

theorem specLines_line (max f : Nat) {l : Bytes} (hl : 10 ∉ l) (r : Bytes) :
    specLines max (f + 1) (l ++ 10 :: r) =
      if l.length ≥ max then ⟨[], true⟩ else ⟨dropCR l :: (specLines max f r).tokens, (specLines max f r).err⟩ := by
  simp [specLines, takeWhile_line hl]

theorem specLines_last (max f : Nat) {l : Bytes} (hl : 10 ∉ l) :
    specLines max (f + 1) l =
      if l.isEmpty then ⟨[], false⟩ else if l.length ≥ max then ⟨[], true⟩ else ⟨[dropCR l], false⟩ := by
  simp [specLines, takeWhile_eq_self hl]

theorem cut_line (max f : Nat) {l : Bytes} (hl : 10 ∉ l) (r : Bytes) :
    cut max (f + 1) (l ++ 10 :: r) =
      if l.length ≥ max then ([], ⟨[], true⟩) else (dropCR l :: (cut max f r).1, (cut max f r).2) := by
  simp [cut, takeWhile_line hl]

theorem cut_last (max f : Nat) {l : Bytes} (hl : 10 ∉ l) :
    cut max (f + 1) l = if l.length ≥ max then ([], ⟨[], true⟩) else ([], ⟨l, false⟩) := by
  simp [cut, takeWhile_eq_self hl]

theorem specLines_fuel (max : Nat) : ∀ (f f' : Nat) (s : Bytes), s.length < f → s.length < f' →
    specLines max f s = specLines max f' s := by
  intro f
  induction f with
  | zero => intro f' s h; omega
  | succ f ih =>
    intro f' s h h'
    cases f' with
    | zero => omega
    | succ f' =>
      rcases split_line s with hs | ⟨l, r, hl, rfl⟩
      · rw [specLines_last max f hs, specLines_last max f' hs]
      · rw [List.length_append, List.length_cons] at h h'
        rw [specLines_line max f hl, specLines_line max f' hl, ih f' r (by omega) (by omega)]

theorem spec_line (max : Nat) {l : Bytes} (hl : 10 ∉ l) (r : Bytes) :
    spec max (l ++ 10 :: r) =
      if l.length ≥ max then ⟨[], true⟩ else ⟨dropCR l :: (spec max r).tokens, (spec max r).err⟩ := by
  rw [spec, specLines_line max _ hl, specLines_fuel max _ (r.length + 1) r (by simp; omega) (Nat.lt_succ_self _)]
  rfl

theorem spec_last (max : Nat) {l : Bytes} (hl : 10 ∉ l) :
    spec max l = if l.isEmpty then ⟨[], false⟩ else if l.length ≥ max then ⟨[], true⟩ else ⟨[dropCR l], false⟩ :=
  specLines_last max _ hl

theorem spec_long (max : Nat) (hmax : 0 < max) {l : Bytes} (hl : 10 ∉ l) (hlen : l.length ≥ max) (rest : Bytes) :
    spec max (l ++ rest) = ⟨[], true⟩ := by
  have hline : ((l ++ rest).takeWhile (· != 10)).length ≥ max := by
    rw [takeWhile_append hl, List.length_append]; omega
  have he : (l ++ rest).isEmpty = false :=
    List.isEmpty_eq_false_iff.mpr (List.ne_nil_of_length_pos (by rw [List.length_append]; omega))
  simp [spec, specLines, he, hline]

/-- what `cut` leaves pending is a short piece without newline -/
def Short (max : Nat) (st : Sc) : Prop := st.err = false → 10 ∉ st.pend ∧ st.pend.length < max

def Out.after (toks : List Bytes) (o : Out) : Out := ⟨toks ++ o.tokens, o.err⟩

theorem Out.after_after (a b : List Bytes) (o : Out) : (o.after b).after a = o.after (a ++ b) := by
  simp [Out.after]

/-- what is still to come according to the specification, seen from a scanner state with `rest` unread -/
def resume (max : Nat) (st : Sc) (rest : Bytes) : Out := if st.err then ⟨[], true⟩ else spec max (st.pend ++ rest)

/-- `cut` agrees with the specification on any continuation of the stream -/
theorem cut_spec (max : Nat) (hmax : 0 < max) (rest : Bytes) : ∀ (fuel : Nat) (data : Bytes), data.length < fuel →
    Short max (cut max fuel data).2 ∧
    spec max (data ++ rest) = (resume max (cut max fuel data).2 rest).after (cut max fuel data).1 := by
  intro fuel
  induction fuel with
  | zero => intro data h; omega
  | succ f ih =>
    intro data h
    rcases split_line data with hd | ⟨l, r, hl, rfl⟩
    · -- no newline yet: everything stays pending, unless it is already too long
      rw [cut_last max f hd]
      split
      · next hlong => exact ⟨(fun h => nomatch h), spec_long max hmax hd hlong rest⟩
      · next hshort => exact ⟨fun _ => ⟨hd, Nat.lt_of_not_le hshort⟩, rfl⟩
    · rw [cut_line max f hl, List.append_assoc, List.cons_append, spec_line max hl]
      split
      · exact ⟨(fun h => nomatch h), rfl⟩
      · obtain ⟨ih1, ih2⟩ := ih r (by simp at h; omega)
        exact ⟨ih1, by rw [ih2]; rfl⟩

/-- one read: the scanner emits the tokens the specification puts first, and goes on from a state that stands for the rest -/
theorem feed_spec (max : Nat) (hmax : 0 < max) (st : Sc) (c rest : Bytes) (hs : Short max st) :
    Short max (feed max st c).2 ∧
    resume max st (c ++ rest) = (resume max (feed max st c).2 rest).after (feed max st c).1 := by
  unfold feed
  split
  · next he => exact ⟨hs, by simp [resume, he, Out.after]⟩
  · next he =>
    have h := cut_spec max hmax rest (st.pend.length + c.length + 1) (st.pend ++ c) (by simp)
    rw [List.append_assoc] at h
    rwa [resume, if_neg he]

theorem run_from (max : Nat) (hmax : 0 < max) : ∀ (cs : List Bytes) (st : Sc) (acc : List Bytes), Short max st →
    run max st cs acc = (resume max st cs.flatten).after acc := by
  intro cs
  induction cs with
  | nil =>
    intro st acc hs
    simp only [run, resume, List.flatten_nil, List.append_nil]
    by_cases he : st.err = true
    · simp [he, finish, Out.after]
    · have he' : st.err = false := by simpa using he
      obtain ⟨h1, h2⟩ := hs he'
      rw [spec_last max h1, if_neg (by omega : ¬ st.pend.length ≥ max)]
      cases hp : st.pend.isEmpty <;> simp [he', finish, hp, Out.after]
  | cons c cs ih =>
    intro st acc hs
    obtain ⟨s1, s2⟩ := feed_spec max hmax st c cs.flatten hs
    rw [run, ih _ _ s1, List.flatten_cons, s2, Out.after_after]

/-- **C12 core.** However the stream is cut into reads (including empty ones), the scanner yields exactly the lines of the
    whole stream; the only error is a line of `max` bytes or more, after which nothing further is delivered. -/
theorem chunk_invariance (max : Nat) (hmax : 0 < max) (chunks : List Bytes) :
    run max {} chunks [] = spec max chunks.flatten :=
  run_from max hmax chunks {} [] (fun _ => ⟨List.not_mem_nil, hmax⟩)

#print axioms chunk_invariance
end Crng.Fr
