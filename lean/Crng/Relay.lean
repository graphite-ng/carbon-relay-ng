/-! destination.go `relay()` as a step function over its select cases (C06, C07 accounting): every hand-off from a route is
consumed by exactly one step and ends up in exactly one place: the connection queue, the spool, or a drop counter. The sends
are non-blocking (`select … default`, a regenerated fact), so the effect of a step depends on the endpoint only through
"is there a live connection" and "is its queue full". -/
namespace Crng.Relay

structure St where
  connUp : Bool := false
  queue : Nat := 0          -- len(conn.In)
  cap : Nat := 0            -- connbuf
  spool : Bool := false
  spoolRoom : Bool := true  -- can InRT take one more (it is drained by the spool's own goroutine)
  handoffs : Nat := 0       -- lines taken from dest.In
  enq : Nat := 0            -- lines put on conn.In
  spooled : Nat := 0        -- lines put on spool.InRT
  slowConn : Nat := 0
  slowSpool : Nat := 0
  downNoSpool : Nat := 0
  deriving Repr

inductive Ev where
  | handoff                 -- `case buf := <-dest.In`
  | connTake                -- HandleData takes one line from conn.In
  | connUp (cap : Nat)      -- `case conn = <-dest.connUpdates`
  | connDie                 -- the loop notices `!conn.isAlive()`
  | spoolRoom (b : Bool)    -- the spool writer catches up / falls behind
  | tick
  deriving Repr

def step (s : St) : Ev → St
  | .handoff =>
    let s := { s with handoffs := s.handoffs + 1 }
    if s.connUp then
      if s.queue < s.cap then { s with queue := s.queue + 1, enq := s.enq + 1 }   -- nonBlockingSend succeeded
      else { s with slowConn := s.slowConn + 1 }                                    -- default branch: dropped and counted
    else if s.spool then
      if s.spoolRoom then { s with spooled := s.spooled + 1 } else { s with slowSpool := s.slowSpool + 1 }
    else { s with downNoSpool := s.downNoSpool + 1 }
  | .connTake => if s.queue > 0 then { s with queue := s.queue - 1 } else s
  | .connUp cap => { s with connUp := true, queue := 0, cap := cap }
  | .connDie => { s with connUp := false, queue := 0 }
  | .spoolRoom b => { s with spoolRoom := b }
  | .tick => s

def run : St → List Ev → St
  | s, [] => s
  | s, e :: es => run (step s e) es

/-- every hand-off is accounted for in exactly one place -/
def Acct (s : St) : Prop := s.handoffs = s.enq + s.spooled + s.slowConn + s.slowSpool + s.downNoSpool

/-- no connection event (`connUp`, `connDie`) occurs in the list, so the connection state stays as it is; `up` only says
which of the two steady states a statement is about -/
def Steady (up : Bool) : List Ev → Prop
  | [] => True
  | .connUp _ :: _ => False
  | .connDie :: _ => False
  | _ :: es => Steady up es

/-- `Quiet s s'`: what a stretch of the loop without a connection event does. It puts `a`, `b`, `c`, `d`, `n` lines in the five
places (in the order of `Acct`) and takes as many; the two switches stay as they are and close some of the places. The queue
and the spool's room are neither counted nor switches. -/
inductive Quiet (s s' : St) : Prop
  | put (q : Nat) (r : Bool) (a b c d n : Nat) (up : s.connUp = true → b + d + n = 0)
      (down : s.connUp = false → s.spool = false → a + b + c + d = 0)
      (eq : s' = { s with queue := q, spoolRoom := r, handoffs := s.handoffs + (a + b + c + d + n), enq := s.enq + a,
                          spooled := s.spooled + b, slowConn := s.slowConn + c, slowSpool := s.slowSpool + d,
                          downNoSpool := s.downNoSpool + n })

theorem Quiet.frame {s : St} {q : Nat} {r : Bool} : Quiet s { s with queue := q, spoolRoom := r } :=
  .put q r 0 0 0 0 0 (fun _ => rfl) (fun _ _ => rfl) rfl

theorem Quiet.refl {s : St} : Quiet s s := .frame

theorem Quiet.trans {s t u : St} (h : Quiet s t) (k : Quiet t u) : Quiet s u := by
  obtain ⟨_, _, a, b, c, d, n, up, down, rfl⟩ := h
  obtain ⟨q, r, a', b', c', d', n', up', down', rfl⟩ := k
  refine .put q r (a + a') (b + b') (c + c') (d + d') (n + n') (fun hu => ?_) (fun hu hsp => ?_) ?_
  -- the switches of the middle state are those of `s` by `rfl`
  · specialize up hu; specialize up' hu; omega
  · specialize down hu hsp; specialize down' hu hsp; omega
  · dsimp only; congr 1 <;> ac_rfl

theorem Quiet.acct {s s' : St} (h : Quiet s s') (ha : Acct s) : Acct s' := by
  obtain ⟨_, _, a, b, c, d, n, -, -, rfl⟩ := h
  simp only [Acct] at *
  omega

/-- The case analysis of `step` on a hand-off: each of the five branches takes one line and puts it in the one place
that the two switches allow. -/
theorem step_handoff (s : St) : (step s .handoff).handoffs = s.handoffs + 1 ∧ Quiet s (step s .handoff) := by
  simp only [step]
  split
  next hu =>
    split
    · exact ⟨rfl, .put _ _ 1 0 0 0 0 (fun _ => rfl) (by simp [hu]) rfl⟩
    · exact ⟨rfl, .put _ _ 0 0 1 0 0 (fun _ => rfl) (by simp [hu]) rfl⟩
  next hu =>
    split
    next hs =>
      split
      · exact ⟨rfl, .put _ _ 0 1 0 0 0 (by simp [hu]) (by simp [hs]) rfl⟩
      · exact ⟨rfl, .put _ _ 0 0 0 1 0 (by simp [hu]) (by simp [hs]) rfl⟩
    next => exact ⟨rfl, .put _ _ 0 0 0 0 1 (by simp [hu]) (fun _ _ => rfl) rfl⟩

theorem run_quiet {up : Bool} : ∀ (es : List Ev) (s : St), Steady up es → Quiet s (run s es)
  | [], _, _ => .refl
  | .handoff :: es, s, h => (step_handoff s).2.trans (run_quiet es _ h)
  | .connTake :: es, s, h => Quiet.trans (by simp only [step]; split <;> exact .frame) (run_quiet es _ h)
  | .spoolRoom _ :: es, s, h => Quiet.frame.trans (run_quiet es _ h)
  | .tick :: es, s, h => run_quiet es s h
  | .connUp _ :: _, _, h | .connDie :: _, _, h => False.elim h

theorem step_acct (s : St) : ∀ e, Acct s → Acct (step s e)
  | .handoff, h => (step_handoff s).2.acct h
  | .connTake, h => by simp only [step]; split <;> exact h
  | .connUp _, h | .connDie, h | .spoolRoom _, h | .tick, h => h     -- no counter is touched

theorem run_acct : ∀ (es : List Ev) (s : St), Acct s → Acct (run s es)
  | [], _, h => h
  | e :: es, s, h => run_acct es _ (step_acct s e h)

theorem run_steady_conn : ∀ (es : List Ev) (s : St) (up : Bool), Steady up es →
    (run s es).connUp = s.connUp ∧ (run s es).spool = s.spool :=
  fun es s _ hs => match run_quiet es s hs with | .put (eq := eq) .. => eq ▸ ⟨rfl, rfl⟩

/-- while the connection is down and spooling is disabled, every hand-off is counted in the connection-down counter -/
theorem steady_down_nospool : ∀ (es : List Ev) (s : St), s.connUp = false → s.spool = false → Steady false es →
    (run s es).downNoSpool + s.handoffs = (run s es).handoffs + s.downNoSpool ∧ (run s es).enq = s.enq := by
  intro es s hu hsp hs
  obtain ⟨_, _, a, b, c, d, n, -, down, eq⟩ := run_quiet es s hs
  specialize down hu hsp
  simp only [eq]
  omega

end Crng.Relay
