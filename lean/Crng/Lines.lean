/-! The first line of a byte stream. Both line splitters (Framing, ReadLine) and their specifications find it as
`s.takeWhile (· != 10)` and go on with `s.drop (line.length + 1)`; here is what that computes on a stream written as
`l ++ 10 :: r` with no newline in `l`, and that every stream with a newline has this form. -/
namespace Crng.Lines

theorem takeWhile_append {l : List UInt8} (h : 10 ∉ l) (r : List UInt8) :
    (l ++ r).takeWhile (· != 10) = l ++ r.takeWhile (· != 10) :=
  List.takeWhile_append_of_pos fun _ hx => bne_iff_ne.mpr fun e => h (e ▸ hx)

theorem takeWhile_eq_self {l : List UInt8} (h : 10 ∉ l) : l.takeWhile (· != 10) = l := by
  simpa using takeWhile_append h []

theorem takeWhile_line {l : List UInt8} (h : 10 ∉ l) (r : List UInt8) : (l ++ 10 :: r).takeWhile (· != 10) = l := by
  simp [takeWhile_append h]

theorem drop_line (l r : List UInt8) : (l ++ 10 :: r).drop (l.length + 1) = r := by
  simp

theorem take_line (l r : List UInt8) (k : Nat) : (l ++ 10 :: r).take (l.length + 1 + k) = l ++ 10 :: r.take k := by
  simp [List.take_append, Nat.add_assoc, List.take_of_length_le, Nat.add_comm 1 k]

theorem drop_line_add (l r : List UInt8) (k : Nat) : (l ++ 10 :: r).drop (l.length + 1 + k) = r.drop k := by
  rw [← List.drop_drop, drop_line]

theorem split_line (s : List UInt8) : 10 ∉ s ∨ ∃ l r, 10 ∉ l ∧ s = l ++ 10 :: r := by
  induction s with
  | nil => exact Or.inl List.not_mem_nil
  | cons c t ih =>
    by_cases hc : c = 10
    · exact Or.inr ⟨[], t, List.not_mem_nil, by rw [hc]; rfl⟩
    · rcases ih with h | ⟨l, r, hl, rfl⟩
      · exact Or.inl fun hm => (List.mem_cons.mp hm).elim (fun e => hc e.symm) h
      · exact Or.inr ⟨c :: l, r, fun hm => (List.mem_cons.mp hm).elim (fun e => hc e.symm) hl, rfl⟩

end Crng.Lines
