import Crng.DiskQueue
namespace Crng.DQ

theorem dig_toNat (k : Nat) (hk : k < 10) : (dig k).toNat = 48 + k := by
  unfold dig; rw [UInt8.toNat_ofNat']; omega

theorem isDigit_dig (k : Nat) (hk : k < 10) : isDigit (dig k) = true := by
  have := dig_toNat k hk
  simp [isDigit, UInt8.le_iff_toNat_le, this]; omega

/-- `digitsAux` produces the decimal digits of `n` in front of `acc`; the fold is the one `scanNat` reads them back with -/
theorem digitsAux_spec : ∀ (fuel n : Nat) (acc : Bytes), n < fuel →
    ∃ ds : Bytes, digitsAux fuel n acc = ds ++ acc ∧ ds ≠ [] ∧ (∀ d ∈ ds, isDigit d = true) ∧
      ∀ a, ds.foldl (fun a d => a * 10 + (d.toNat - 48)) a = a * 10 ^ ds.length + n := by
  intro fuel
  induction fuel with
  | zero => intro n acc h; omega
  | succ f ih =>
    intro n acc h
    unfold digitsAux
    split
    · rename_i hn
      exact ⟨[dig n], rfl, by simp, by simp [isDigit_dig n hn], fun a => by simp [dig_toNat n hn]⟩
    · have hmod : n % 10 < 10 := Nat.mod_lt n (by decide)
      obtain ⟨ds, h1, h2, h3, h4⟩ := ih (n / 10) (dig (n % 10) :: acc) (by omega)
      refine ⟨ds ++ [dig (n % 10)], by rw [h1, List.append_assoc]; rfl, by simp, ?_, ?_⟩
      · intro d hd
        rcases List.mem_append.mp hd with hd | hd
        · exact h3 d hd
        · rw [List.mem_singleton.mp hd]; exact isDigit_dig _ hmod
      · intro a
        rw [List.foldl_append, h4, List.foldl_cons, List.foldl_nil, dig_toNat _ hmod, List.length_append,
          List.length_singleton, Nat.pow_succ, Nat.add_mul, Nat.mul_assoc]
        omega

theorem natDigits_spec (n : Nat) : natDigits n ≠ [] ∧ (∀ d ∈ natDigits n, isDigit d = true) ∧
    (natDigits n).foldl (fun a d => a * 10 + (d.toNat - 48)) 0 = n := by
  obtain ⟨ds, h1, h2, h3, h4⟩ := digitsAux_spec (n + 1) n [] (by omega)
  simp only [List.append_nil] at h1
  unfold natDigits
  rw [h1]
  exact ⟨h2, h3, by simpa using h4 0⟩

theorem scanNat_natDigits (n : Nat) (c : UInt8) (rest : Bytes) (hc : isDigit c = false) :
    scanNat (natDigits n ++ c :: rest) = some (n, c :: rest) := by
  obtain ⟨h1, h2, h3⟩ := natDigits_spec n
  unfold scanNat
  have htw : (natDigits n ++ c :: rest).takeWhile isDigit = natDigits n := by
    rw [List.takeWhile_append_of_pos h2]; simp [hc]
  simp [htw, List.isEmpty_eq_false_iff.mpr h1, h3]

theorem scanInt_natDigits (n : Nat) (c : UInt8) (rest : Bytes) (hc : isDigit c = false) :
    scanInt (natDigits n ++ c :: rest) = some ((n : Int), c :: rest) := by
  obtain ⟨h1, h2, _⟩ := natDigits_spec n
  have hs := scanNat_natDigits n c rest hc
  cases hnd : natDigits n with
  | nil => exact absurd hnd h1
  | cons d0 ds =>
    have hd0 : isDigit d0 = true := h2 d0 (by rw [hnd]; exact List.mem_cons_self ..)
    -- a digit is neither '-' (45) nor '+' (43), so `scanInt` falls through to its unsigned branch
    have hsign : ∀ b : UInt8, isDigit b = false → d0 ≠ b := fun b hb h => by rw [h, hb] at hd0; cases hd0
    rw [hnd] at hs
    simp only [List.cons_append] at hs ⊢
    unfold scanInt
    split
    · rename_i heq; simp at heq; exact absurd heq.1 (hsign 45 rfl)
    · rename_i heq; simp at heq; exact absurd heq.1 (hsign 43 rfl)
    · simp [hs]

theorem parse_render (m : Mem) (junk : Bytes) (hd : 0 ≤ m.depth) :
    parseMeta (renderMeta m ++ junk) = some (m.depth, m.rfn, m.rpos, m.wfn, m.wpos) := by
  have hint : intText m.depth = natDigits m.depth.toNat := by
    unfold intText; simp [Int.not_lt.mpr hd]
  -- the text is `depth \n rfn , rpos \n wfn , wpos \n`: each of the five scans stops at the separator (10 or 44) that follows its
  -- number, by `scanInt_natDigits` / `scanNat_natDigits`, and `expect` consumes it
  simp [renderMeta, parseMeta, hint, scanInt_natDigits, scanNat_natDigits, show isDigit 10 = false from rfl, show isDigit 44 = false from rfl, expect,
    Int.toNat_of_nonneg hd]

end Crng.DQ
