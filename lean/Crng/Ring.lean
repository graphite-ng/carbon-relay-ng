import Crng.Sorted
/-! Consistent-hash ring lookup (C15), abstract in the entry order. -/
namespace Crng.Ring

/-- what we need of the order on ring entries `(position, host, instance)` -/
structure Ord (K : Type) where
  le : K → K → Prop
  pos : K → Nat
  refl : ∀ a, le a a
  trans : ∀ a b c, le a b → le b c → le a c
  antisymm : ∀ a b, le a b → le b a → a = b
  total : ∀ a b, le a b ∨ le b a
  pos_mono : ∀ a b, le a b → pos a ≤ pos b

variable {K : Type} (o : Ord K)

/-- Go: `sort.Search(len(ring), func(i) { ring[i].Position >= position }) % len(ring)` on the sorted ring -/
def lookup (ring : List K) (k : Nat) : Option K :=
  if ring.isEmpty then none else ring[(ring.findIdx (fun e => decide (k ≤ o.pos e))) % ring.length]?

/-- Carbon's rule, stated on the *set* of entries: the least entry at or after the key position, else the least entry -/
def IsOwner (S : List K) (k : Nat) (e : K) : Prop :=
  e ∈ S ∧ ((∃ x ∈ S, k ≤ o.pos x) → k ≤ o.pos e ∧ ∀ x ∈ S, k ≤ o.pos x → o.le e x) ∧
  ((¬ ∃ x ∈ S, k ≤ o.pos x) → ∀ x ∈ S, o.le e x)

theorem owner_unique (S : List K) (k : Nat) (a b : K) (ha : IsOwner o S k a) (hb : IsOwner o S k b) : a = b := by
  by_cases h : ∃ x ∈ S, k ≤ o.pos x
  · obtain ⟨pa, la⟩ := ha.2.1 h
    obtain ⟨pb, lb⟩ := hb.2.1 h
    exact o.antisymm a b (la b hb.1 pb) (lb a ha.1 pa)
  · exact o.antisymm a b (ha.2.2 h b hb.1) (hb.2.2 h a ha.1)

theorem isOwner_mono {S S' : List K} (hsub : ∀ x ∈ S, x ∈ S') {k : Nat} {e : K} (h : IsOwner o S' k e) (he : e ∈ S) :
    IsOwner o S k e := by
  refine ⟨he, ?_, ?_⟩
  · intro ⟨x, hx, hk⟩
    obtain ⟨a, b⟩ := h.2.1 ⟨x, hsub x hx, hk⟩
    exact ⟨a, fun y hy hky => b y (hsub y hy) hky⟩
  · intro hn y hy
    by_cases hex : ∃ x ∈ S', k ≤ o.pos x
    · -- e is at or after k although nothing in S is: impossible
      exact absurd ⟨e, he, (h.2.1 hex).1⟩ hn
    · exact h.2.2 hex y (hsub y hy)

/-- the Go lookup on any sorted arrangement finds the owner -/
theorem lookup_isOwner (ring : List K) (hs : ring.Pairwise o.le) (k : Nat) (hne : ring ≠ []) :
    ∃ e, lookup o ring k = some e ∧ IsOwner o ring k e := by
  simp only [lookup, List.isEmpty_eq_false_iff.mpr hne, Bool.false_eq_true, if_false]
  cases he : ring.find? (fun e => decide (k ≤ o.pos e)) with
  | some e =>
    -- the first entry at or after k
    have hm := List.mem_of_find?_eq_some he
    have hke : k ≤ o.pos e := by simpa using List.find?_some he
    rw [Nat.mod_eq_of_lt (List.findIdx_lt_length.mpr ⟨e, hm, List.find?_some he⟩), ← List.find?_eq_getElem?_findIdx]
    exact ⟨e, he, hm, fun _ => ⟨hke, fun y hy hky => Sorted.find?_least o.refl hs he y hy (by simpa using hky)⟩,
      fun h => absurd ⟨e, hm, hke⟩ h⟩
  | none =>
    -- nothing at or after k: wrap around to the first entry, the least of a sorted list
    have hnone : ∀ x ∈ ring, ¬ k ≤ o.pos x := by simpa using he
    rw [List.findIdx_eq_length.mpr fun x hx => by simpa using hnone x hx, Nat.mod_self]
    cases ring with
    | nil => exact absurd rfl hne
    | cons a t =>
      refine ⟨a, rfl, List.mem_cons_self, fun ⟨x, hx, hk⟩ => absurd hk (hnone x hx), fun _ x hx => ?_⟩
      rcases List.mem_cons.mp hx with rfl | hx
      · exact o.refl _
      · exact (List.pairwise_cons.mp hs).1 x hx

/-- listing order does not matter: two sorted rings with the same entries agree on every key -/
theorem order_independent (r1 r2 : List K) (h1 : r1.Pairwise o.le) (h2 : r2.Pairwise o.le)
    (hperm : ∀ x, x ∈ r1 ↔ x ∈ r2) (hne : r1 ≠ []) (k : Nat) : lookup o r1 k = lookup o r2 k := by
  have ⟨a, ha⟩ := List.exists_mem_of_ne_nil r1 hne
  have hne2 : r2 ≠ [] := List.ne_nil_of_mem ((hperm a).mp ha)
  obtain ⟨e1, l1, o1⟩ := lookup_isOwner o r1 h1 k hne
  obtain ⟨e2, l2, o2⟩ := lookup_isOwner o r2 h2 k hne2
  have o2' : IsOwner o r1 k e2 := isOwner_mono o (fun x hx => (hperm x).mp hx) o2 ((hperm e2).mpr o2.1)
  rw [l1, l2, owner_unique o r1 k e1 e2 o1 o2']

/-- removing entries that do not own the key leaves its owner unchanged -/
theorem remove_minimal (S T : List K) (k : Nat) (e : K) (h : IsOwner o (S ++ T) k e) (hS : e ∈ S) : IsOwner o S k e :=
  isOwner_mono o (fun _ hx => List.mem_append_left _ hx) h hS

/-- adding entries moves a key only onto one of the new entries -/
theorem add_minimal (S T : List K) (k : Nat) (e e' : K) (h : IsOwner o S k e) (h' : IsOwner o (S ++ T) k e') :
    e' = e ∨ e' ∈ T :=
  (List.mem_append.mp h'.1).imp_left fun hS => owner_unique o S k e' e (remove_minimal o S T k e' h' hS) h

end Crng.Ring

namespace Crng.Ring

/-- Go's `sort.Search(n, f)` -/
def bsearch (f : Nat → Bool) : Nat → Nat → Nat → Nat
  | 0, i, _ => i
  | fuel + 1, i, j =>
    if i < j then
      let h := (i + j) / 2
      if !f h then bsearch f fuel (h + 1) j else bsearch f fuel i h
    else i

/-- on a predicate that never goes back to false, binary search returns the first true index in `[i, j)`, or `j` -/
theorem bsearch_spec (f : Nat → Bool) (hmono : ∀ a b, a ≤ b → f a = true → f b = true) :
    ∀ (fuel i j : Nat), i ≤ j → j - i ≤ fuel → (∀ a, a < i → f a = false) →
      i ≤ bsearch f fuel i j ∧ bsearch f fuel i j ≤ j ∧ (∀ a, a < bsearch f fuel i j → f a = false) ∧
      (bsearch f fuel i j < j → f (bsearch f fuel i j) = true) := by
  intro fuel i j
  fun_induction bsearch f fuel i j with
  | case1 i j => exact fun hij hf hlo => ⟨Nat.le_refl _, hij, hlo, fun h => by omega⟩
  | case2 fuel i j hlt h hfh ih =>
    intro hij hf hlo
    -- nothing up to the midpoint `h` is true, or `h` would be
    have hlo' : ∀ a, a < h + 1 → f a = false := fun a ha =>
      Bool.eq_false_iff.mpr fun hfa => by simp [hmono a h (by omega) hfa] at hfh
    obtain ⟨a1, a2, a3, a4⟩ := ih (by omega) (by omega) hlo'
    exact ⟨by omega, a2, a3, a4⟩
  | case3 fuel i j hlt h hfh ih =>
    intro hij hf hlo
    obtain ⟨a1, a2, a3, a4⟩ := ih (by omega) (by omega) hlo
    refine ⟨a1, by omega, a3, fun _ => ?_⟩
    rcases Nat.lt_or_eq_of_le a2 with hr | hr
    · exact a4 hr
    · rw [hr]; simpa using hfh
  | case4 fuel i j hlt => exact fun hij hf hlo => ⟨Nat.le_refl _, hij, hlo, fun h => by omega⟩
end Crng.Ring
