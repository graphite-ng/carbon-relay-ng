import Crng.CodePrelude
/-! Hand-written closed form of imperatives.go `readDestination` on a token list: the option table (which token introduces
which option, what kind of value token must follow, which field it sets, in which unit), the option loop as
recursion over the tokens, the defaults, and the final call of `destination.New`. `Crng.Tie.CodeReadDest` proves the
function regenerated from /repo equal to this for every token list. -/
namespace Crng.CodeSpecDest
open Crng.Code

/-- the option variables of `readDestination` -/
structure DRec where
  connBufSize : Int := 30000
  err : Err := none
  flush : Int := 1000
  ioBufSize : Int := 2000000
  notPrefix : Bytes := []
  notRegex : Bytes := []
  notSub : Bytes := []
  pickle : Bool := false
  prefix_ : Bytes := []
  reconn : Int := 10000
  regex : Bytes := []
  spool : Bool := false
  spoolBufSize : Int := 10000
  spoolMaxBytesPerFile : Int := 200 * 1024 * 1024
  spoolSleep : Int := 500 * 1000
  spoolSyncEvery : Int := 10000
  spoolSyncPeriod : Int := 1000000000
  sub : Bytes := []
  unspoolSleep : Int := 10 * 1000

/-- the loop state of the regenerated function: its assigned variables in alphabetical order -/
abbrev DTuple := Int × Err × Int × Int × Bytes × Bytes × Bytes × Bool × Bytes × Int × Bytes × Scanner × Bool × Int × Int × Int × Int × Int × Bytes × TokV × Int
def DRec.toTuple (d : DRec) (s : Scanner) (t : TokV) : DTuple :=
  (d.connBufSize, d.err, d.flush, d.ioBufSize, d.notPrefix, d.notRegex, d.notSub, d.pickle, d.prefix_, d.reconn, d.regex, s, d.spool,
   d.spoolBufSize, d.spoolMaxBytesPerFile, d.spoolSleep, d.spoolSyncEvery, d.spoolSyncPeriod, d.sub, t, d.unspoolSleep)

inductive OKind | word | num | bool deriving DecidableEq

/-- docs/config.md, carbon destination options: which token introduces an option and what must follow it -/
def optKind : Token → Option OKind
  | .optPrefix | .optNotPrefix | .optSub | .optNotSub | .optRegex | .optNotRegex => some .word
  | .optFlush | .optReconn | .optConnBufSize | .optIoBufSize | .optSpoolBufSize | .optSpoolMaxBytesPerFile | .optSpoolSyncEvery
  | .optSpoolSyncPeriod | .optSpoolSleep | .optUnspoolSleep => some .num
  | .optPickle | .optSpool => some .bool
  | _ => none

def valueTokenOK (k : OKind) (v : Token) : Bool :=
  match k with
  | .word => v == Token.word
  | .num => v == Token.num
  | .bool => v == Token.optTrue || v == Token.optFalse

/-- `Next()` at the end of the input answers `EOF`, which is no value token -/
theorem valueTokenOK_EOF (k : OKind) : valueTokenOK k Token.EOF = false := by cases k <;> rfl

/-- the field an option sets, with the documented unit (ms for spoolsyncperiod, µs for the two sleeps; flush and reconn are
converted to durations after the loop) -/
def applyOpt (E : Env) (o : Token) (v : Bytes) (d : DRec) : Except Err DRec :=
  let num (f : Int → DRec) : Except Err DRec :=
    match E.strconv_Atoi (E.strings_TrimSpace v) with
    | (n, none) => .ok { (f n) with err := none }
    | (_, some e) => .error (some e)
  let bool (msg : String) (f : Bool → DRec) : Except Err DRec :=
    match E.strconv_ParseBool v with
    | (b, none) => .ok { (f b) with err := none }
    | (_, some _) => .error (some msg)
  match o with
  | .optPrefix => .ok { d with prefix_ := v } | .optNotPrefix => .ok { d with notPrefix := v }
  | .optSub => .ok { d with sub := v } | .optNotSub => .ok { d with notSub := v }
  | .optRegex => .ok { d with regex := v } | .optNotRegex => .ok { d with notRegex := v }
  | .optFlush => num fun n => { d with flush := n } | .optReconn => num fun n => { d with reconn := n }
  | .optPickle => bool "unrecognized pickle value '%s'" fun b => { d with pickle := b }
  | .optSpool => bool "unrecognized spool value '%s'" fun b => { d with spool := b }
  | .optConnBufSize => num fun n => { d with connBufSize := n } | .optIoBufSize => num fun n => { d with ioBufSize := n }
  | .optSpoolBufSize => num fun n => { d with spoolBufSize := n }
  | .optSpoolMaxBytesPerFile => num fun n => { d with spoolMaxBytesPerFile := n }
  | .optSpoolSyncEvery => num fun n => { d with spoolSyncEvery := n }
  | .optSpoolSyncPeriod => num fun n => { d with spoolSyncPeriod := n * time_Millisecond }
  | .optSpoolSleep => num fun n => { d with spoolSleep := n * time_Microsecond }
  | .optUnspoolSleep => num fun n => { d with unspoolSleep := n * time_Microsecond }
  | _ => .ok d

abbrev R := DestP × Err × Scanner

/-- one iteration of the option loop -/
def recStep (E : Env) (d : DRec) (s : Scanner) : Step (DRec × Scanner × TokV) R :=
  let t := s.Next.1
  let s1 := s.Next.2
  if t.Token = Token.EOF ∨ t.Token = Token.sep then .next (d, s1, t)
  else match optKind t.Token with
    | none => .ret (none, some "unrecognized option '%s'", s1)
    | some k =>
      let v := s1.Next.1
      let s2 := s1.Next.2
      if valueTokenOK k v.Token = false then .ret (none, errFmtAddRoute, s2)
      else match applyOpt E t.Token v.Value d with
        | .error e => .ret (none, e, s2)
        | .ok d' => .next (d', s2, v)

def stepMap {σ τ ρ : Type} (f : σ → τ) : Step σ ρ → Step τ ρ
  | .next s => .next (f s)
  | .brk s => .brk (f s)
  | .ret r => .ret r
@[simp] theorem stepMap_next {σ τ ρ : Type} (f : σ → τ) (s : σ) : stepMap (ρ := ρ) f (.next s) = .next (f s) := rfl
@[simp] theorem stepMap_brk {σ τ ρ : Type} (f : σ → τ) (s : σ) : stepMap (ρ := ρ) f (.brk s) = .brk (f s) := rfl
@[simp] theorem stepMap_ret {σ τ ρ : Type} (f : σ → τ) (r : ρ) : stepMap (σ := σ) f (.ret r) = .ret r := rfl
@[simp] theorem stepMap_ite {σ τ ρ : Type} (f : σ → τ) (c : Prop) [Decidable c] (a b : Step σ ρ) :
    stepMap f (if c then a else b) = if c then stepMap f a else stepMap f b := by split <;> rfl

def tupleStep (E : Env) (st : DTuple) : Step DTuple R :=
  match st with
  | (connBufSize, err, flush, ioBufSize, notPrefix, notRegex, notSub, pickle, prefix_, reconn, regex, s, spool, spoolBufSize,
     spoolMaxBytesPerFile, spoolSleep, spoolSyncEvery, spoolSyncPeriod, sub, _t, unspoolSleep) =>
    stepMap (fun (x : DRec × Scanner × TokV) => x.1.toTuple x.2.1 x.2.2)
      (recStep E { connBufSize, err, flush, ioBufSize, notPrefix, notRegex, notSub, pickle, prefix_, reconn, regex, spool, spoolBufSize,
                   spoolMaxBytesPerFile, spoolSleep, spoolSyncEvery, spoolSyncPeriod, sub, unspoolSleep } s)

def tupleCond (st : DTuple) : Bool :=
  match st with
  | (_, _, _, _, _, _, _, _, _, _, _, _, _, _, _, _, _, _, _, t, _) => (t.Token != toki_EOF) && (t.Token != Token.sep)

/-- the option loop as recursion over the remaining tokens: options are read in pairs until `EOF` or the route
separator; the first problem ends everything with an error -/
def optLoop (E : Env) : List TokV → DRec → Except (Err × Scanner) (DRec × Scanner)
  | [], d => .ok (d, ⟨[]⟩)
  | t :: rest, d =>
    if t.Token = Token.EOF ∨ t.Token = Token.sep then .ok (d, ⟨rest⟩)
    else match optKind t.Token with
      | none => .error (some "unrecognized option '%s'", ⟨rest⟩)
      | some k =>
        match rest with
        | [] => .error (errFmtAddRoute, ⟨[]⟩)          -- `Next()` answers EOF, which is no value token
        | v :: rest2 =>
          if valueTokenOK k v.Token = false then .error (errFmtAddRoute, ⟨rest2⟩)
          else match applyOpt E t.Token v.Value d with
            | .error e => .error (e, ⟨rest2⟩)
            | .ok d' => optLoop E rest2 d'
termination_by l => l.length
decreasing_by all_goals simp_wf <;> omega

/-- what `readDestination` does after the loop -/
def finish (E : Env) (d : DRec) (addr spoolDir routeKey : Bytes) (allowMatcher : Bool) (s : Scanner) : R :=
  if (!allowMatcher) && (d.prefix_ ++ d.notPrefix ++ d.sub ++ d.notSub ++ d.regex ++ d.notRegex != []) then
    (none, some "matching options (prefix, notPrefix, sub, notSub, regex, notRegex) not allowed for this route type", s)
  else
    match E.matcher_New d.prefix_ d.notPrefix d.sub d.notSub d.regex d.notRegex with
    | (_, some _) => (none, some "Failed to initialize matcher: %s", s)
    | (m, none) =>
      ((E.destination_New routeKey m addr spoolDir d.spool d.pickle (d.flush * time_Millisecond) (d.reconn * time_Millisecond)
          d.connBufSize d.ioBufSize d.spoolBufSize d.spoolMaxBytesPerFile d.spoolSyncEvery d.spoolSyncPeriod d.spoolSleep d.unspoolSleep).1,
       (E.destination_New routeKey m addr spoolDir d.spool d.pickle (d.flush * time_Millisecond) (d.reconn * time_Millisecond)
          d.connBufSize d.ioBufSize d.spoolBufSize d.spoolMaxBytesPerFile d.spoolSyncEvery d.spoolSyncPeriod d.spoolSleep d.unspoolSleep).2, s)

/-- closed form of `readDestination` -/
def readDestinationSpec (E : Env) (toks : List TokV) (table : TableI) (allowMatcher : Bool) (routeKey : Bytes) : R :=
  match toks with
  | [] => (none, some "addr not set for endpoint", ⟨[]⟩)
  | a :: rest =>
    if a.Token != Token.word then (none, some "addr not set for endpoint", ⟨rest⟩)
    else match optLoop E rest {} with
      | .error (e, s) => (none, e, s)
      | .ok (d, s) => finish E d a.Value table.GetSpoolDir routeKey allowMatcher s

end Crng.CodeSpecDest
