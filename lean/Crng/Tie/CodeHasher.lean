import Crng.Gen.CodeHasher
import Crng.CHashProofs
/-! Obligations of the regenerated *code* layer, route/consistent_hashing.go and destination/destination.go:
`GetDestinationIndex` returns, on a non-empty ring, the destination index stored in the entry that the model's `lookupKey`
selects (and `Crng.Props.C15` proves that entry to be Carbon's owner of the key, whatever the listing order);
`ConsistentHashing.Dispatch` hands a line to the one destination at that index, chosen by the name alone;
`addrInstanceSplit` takes the instance as the model's `nodeOfAddr` does. -/
namespace Crng.Tie.CodeHasher
open Crng.Code Crng.Gen.Code Crng.Ring Crng.CHash

def absEntry (e : HashRingEntry) : Key := (e.Position.toNat, e.Hostname, e.Instance)

theorem bsearch_congr (f g : Nat → Bool) (n : Nat) (hfg : ∀ k, k < n → f k = g k) :
    ∀ (fuel i j : Nat), j ≤ n → bsearch f fuel i j = bsearch g fuel i j := by
  intro fuel
  induction fuel with
  | zero => intro i j _; rfl
  | succ fuel ih =>
    intro i j hj
    simp only [bsearch]
    by_cases hlt : i < j
    · have hm : (i + j) / 2 < n := by omega
      simp only [hlt, if_true, hfg _ hm]
      rw [ih ((i + j) / 2 + 1) j hj, ih i ((i + j) / 2) (by omega)]
    · simp [hlt]

/-- **GetDestinationIndex (regenerated) = the destination index of the entry `lookupKey` selects** -/
theorem getDestinationIndex_eq (E : Env) (h : ConsistentHasher) (key : Crng.Code.Bytes) (hne : h.Ring ≠ [])
    (hp : ∀ e ∈ h.Ring, 0 ≤ e.Position) (hk : 0 ≤ E.computeRingPosition key) :
    ∃ e ∈ h.Ring, lookupKey (h.Ring.map absEntry) (E.computeRingPosition key).toNat = some (absEntry e) ∧
      h.GetDestinationIndex E key = e.DestinationIndex := by
  have hn : 0 < h.Ring.length := List.length_pos_iff.mpr hne
  unfold ConsistentHasher.GetDestinationIndex Lib.sort_Search
  rw [lookupKey_of_ne_nil (by simpa using hne)]
  simp only [List.length_map, Lib.len, Int.toNat_natCast]
  -- on indices inside the ring the code's comparison of positions is the model's `geAt`
  have hcong : bsearch (fun k => decide ((Lib.idx h.Ring (k : Int)).Position ≥ E.computeRingPosition key)) h.Ring.length 0 h.Ring.length =
      bsearch (geAt (h.Ring.map absEntry) (E.computeRingPosition key).toNat) h.Ring.length 0 h.Ring.length := by
    refine bsearch_congr _ _ h.Ring.length (fun k hkl => ?_) _ _ _ (Nat.le_refl _)
    have hpos := hp _ (List.getElem_mem hkl)
    rw [geAt_of_lt _ _ (by simpa using hkl), List.getElem_map, Lib.idx_of_lt _ _ hkl]
    exact decide_eq_decide.mpr (by simp only [absEntry]; omega)
  rw [hcong]
  generalize bsearch (geAt (h.Ring.map absEntry) (E.computeRingPosition key).toNat) h.Ring.length 0 h.Ring.length = b
  have hmod : b % h.Ring.length < h.Ring.length := Nat.mod_lt _ hn
  refine ⟨h.Ring[b % h.Ring.length], List.getElem_mem hmod, ?_, ?_⟩
  · simp [List.getElem?_map, List.getElem?_eq_getElem hmod]
  · rw [show Lib.goMod (b : Int) (h.Ring.length : Int) = ((b % h.Ring.length : Nat) : Int) from by
      simp [Lib.goMod, Int.tmod_eq_emod_of_nonneg], Lib.idx_of_lt _ _ hmod]

/-- … and on a ring sorted by `Less` that entry is Carbon's owner of the key position (first entry at or after it, else the
first entry), whatever order the destinations were listed in -/
theorem getDestinationIndex_owner (E : Env) (h : ConsistentHasher) (key : Crng.Code.Bytes) (hne : h.Ring ≠ [])
    (hp : ∀ e ∈ h.Ring, 0 ≤ e.Position) (hk : 0 ≤ E.computeRingPosition key)
    (hs : (h.Ring.map absEntry).Pairwise keyOrd.le) :
    ∃ e ∈ h.Ring, IsOwner keyOrd (h.Ring.map absEntry) (E.computeRingPosition key).toNat (absEntry e) ∧
      h.GetDestinationIndex E key = e.DestinationIndex := by
  obtain ⟨e, he, hl, hd⟩ := getDestinationIndex_eq E h key hne hp hk
  have hne' : h.Ring.map absEntry ≠ [] := by simpa using hne
  obtain ⟨e', hl', ho⟩ := lookup_isOwner keyOrd (h.Ring.map absEntry) hs (E.computeRingPosition key).toNat hne'
  rw [lookupKey_eq _ hs] at hl
  rw [hl] at hl'
  cases hl'
  exact ⟨e, he, ho, hd⟩

/-- **ConsistentHashing.Dispatch (regenerated)**: a line with a non-empty name is handed to exactly one destination — the
one at the index `GetDestinationIndex` returns for the name (the text before the first space), chosen by the name only;
a line without a name is handed to nobody -/
theorem ch_dispatch_trace (E : Env) (r : ConsistentHashing) (buf : Crng.Code.Bytes) :
    (r.Dispatch E buf).1 =
      if Lib.bytes_IndexByte buf 32 > 0 then
        [Ev.call "dest.In<-"
          (Lib.idx r.config.Dests (r.config.Hasher.GetDestinationIndex E (Lib.slice buf 0 (Lib.bytes_IndexByte buf 32)))).id [arg buf]]
      else [] := by
  unfold ConsistentHashing.Dispatch
  by_cases h : Lib.bytes_IndexByte buf 32 > 0 <;> simp [h, emit, Res.pure]

/-- the choice depends on the name only: two lines with the same name go to the same destination -/
theorem ch_dispatch_name_only (E : Env) (r : ConsistentHashing) (b1 b2 : Crng.Code.Bytes)
    (h1 : Lib.bytes_IndexByte b1 32 > 0) (h2 : Lib.bytes_IndexByte b2 32 > 0)
    (hn : Lib.slice b1 0 (Lib.bytes_IndexByte b1 32) = Lib.slice b2 0 (Lib.bytes_IndexByte b2 32)) :
    ∃ d, (r.Dispatch E b1).1 = [Ev.call "dest.In<-" d [arg b1]] ∧ (r.Dispatch E b2).1 = [Ev.call "dest.In<-" d [arg b2]] := by
  rw [ch_dispatch_trace, ch_dispatch_trace, if_pos h1, if_pos h2, hn]
  exact ⟨_, rfl, rfl⟩

/-! ### destination.addrInstanceSplit -/
theorem split_go_eq (s cur : Crng.Code.Bytes) : Lib.strings_Split.go 58 s cur = splitColon.go s cur := by
  induction s generalizing cur with
  | nil => rfl
  | cons x t ih =>
    simp only [Lib.strings_Split.go, splitColon.go]
    split <;> simp [ih]

theorem split_eq (s : Crng.Code.Bytes) : Lib.strings_Split s [58] = splitColon s := by
  simp [Lib.strings_Split, splitColon, split_go_eq]

theorem count_eq (s : Crng.Code.Bytes) : Lib.strings_Count s [58] = ((splitColon s).length : Int) - 1 := by
  simp [Lib.strings_Count, splitColon_length]

/-- **addrInstanceSplit (regenerated)**: the instance is the third of exactly three colon-separated parts, else empty — the
`inst` of the model's `nodeOfAddr` — and an address without exactly two colons is left as it is -/
theorem addrInstanceSplit_instance (addr : Crng.Code.Bytes) : (addrInstanceSplit addr).2 = (nodeOfAddr addr).inst := by
  unfold addrInstanceSplit nodeOfAddr
  -- by `count_eq` both sides ask whether there are exactly three parts, and take the third
  simp only [split_eq, count_eq]
  rcases splitColon addr with _ | ⟨a, _ | ⟨b, _ | ⟨c, _ | ⟨d, r⟩⟩⟩⟩
  · simp; rfl -- no part
  · simp; rfl -- one part
  · simp; rfl -- two parts
  · simp; rfl -- three parts: both sides take `c`
  · simp; rfl -- four or more: `length - 1 ≠ 2` (`simp` finds it), so the code, like the model, answers the empty instance

theorem addrInstanceSplit_addr (addr : Crng.Code.Bytes) (h : (splitColon addr).length ≠ 3) : (addrInstanceSplit addr).1 = addr := by
  unfold addrInstanceSplit
  simp only [count_eq]
  rw [if_neg (by simp; omega)]

end Crng.Tie.CodeHasher
