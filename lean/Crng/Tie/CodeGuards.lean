import Crng.Gen.CodeGuards
import Crng.Safe
/-! Obligations of the regenerated *code* layer, constructor guards (C14): the parameter validation at the top of
`destination.New` and `route.NewGrafanaNet`, as translated from /repo on this run, lets exactly those parameters through
that the acceptance predicates of `Crng.Safe` describe — the predicates `Crng.Props.C14.dest_accept_safe` and
`gn_accept_safe` prove sufficient for every later use (tickers, channel and buffer allocation, divisions). A guard that is
weakened, dropped or reordered so that a bad value passes makes the equivalence false. -/
namespace Crng.Tie.CodeGuards
open Crng.Code Crng.Gen.Code

theorem guard_none_iff (c : Bool) (e : String) (r : Err) :
    ((if c = true then (some e : Err) else r) = none) ↔ ((!c) = true ∧ r = none) := by
  cases c <;> simp

/-- **destination.New's guards pass ⇔ `destAccept`** -/
theorem destination_guards_iff (routeName : Bytes) (m : MatcherArgs) (addr spoolDir : Bytes) (spool pickle : Bool)
    (periodFlush periodReConn connBufSize ioBufSize spoolBufSize spoolMaxBytesPerFile spoolSyncEvery spoolSyncPeriod spoolSleep unspoolSleep : Int) :
    (destination_New_guards routeName m addr spoolDir spool pickle periodFlush periodReConn connBufSize ioBufSize spoolBufSize
        spoolMaxBytesPerFile spoolSyncEvery spoolSyncPeriod spoolSleep unspoolSleep = none) ↔
      Crng.Safe.destAccept ⟨periodFlush, periodReConn, connBufSize, ioBufSize, spool, spoolBufSize, spoolSyncPeriod⟩ = true := by
  -- `destAccept` is the conjunction of the negated guards, written as in the code
  unfold destination_New_guards Crng.Safe.destAccept
  simp only [guard_none_iff, and_true]
  -- four guards: the conjunction has to be re-associated (`gnAccept` below has two and needs no `and_assoc`)
  simp only [Bool.and_eq_true, and_assoc]
  exact Iff.rfl

/-- **NewGrafanaNet's guards pass ⇔ `gnAccept`** -/
theorem grafanaNet_guards_iff (key : Bytes) (m : MatcherArgs) (cfg : GrafanaNetConfig) :
    (NewGrafanaNet_guards key m cfg = none) ↔
      Crng.Safe.gnAccept ⟨cfg.Concurrency, cfg.BufSize, cfg.FlushMaxNum, cfg.FlushMaxWait⟩ = true := by
  unfold NewGrafanaNet_guards Crng.Safe.gnAccept
  simp only [guard_none_iff, and_true]
  simp only [Bool.and_eq_true]
  exact Iff.rfl

end Crng.Tie.CodeGuards
