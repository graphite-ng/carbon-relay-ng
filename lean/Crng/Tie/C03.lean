import Crng.Gen.MatchArgs
import Crng.Gen.AggMatcherCalls
import Crng.Gen.AggCache
/-! regenerated obligations for C03: every filter call site in the dispatch path passes the metric name, and the
aggregator consults both matcher stages (PreMatch: prefix/sub options + regex prefix; MatchRegexAndExpand: regex, notRegex) -/
namespace Crng.Tie.C03

/-- all five call sites found, each classified `name` -/
theorem matchArgs_ok :
    (Crng.Gen.matchArgs.length == 5 && Crng.Gen.matchArgs.all (fun r => r.2.2.2 == "name")) = true := by decide

/-- the name is what precedes the first space -/
theorem metricName_ok :
    Crng.Gen.metricNameBody = "{ if pos := bytes.IndexByte(buf, ' '); pos >= 0 { return buf[:pos] } return buf }" := rfl

theorem aggCalls_ok :
    Crng.Gen.aggMatcherCalls = ["Aggregator.AddMaybe:PreMatch(buf[0])", "Aggregator.matchWithCache:MatchRegexAndExpand(key)"] := rfl

/-- the match cache is a map keyed by the metric name itself (the `K` of `Crng.AC.Cache`): `cache_transparent` is about
that cache; a cache keyed by a hash or any other non-injective image of the name is a different object -/
theorem aggCache_ok :
    (Crng.Gen.aggCacheKeys == ["string(key)"] && Crng.Gen.aggCacheType == "map[string]CacheEntry") = true := by decide

end Crng.Tie.C03
