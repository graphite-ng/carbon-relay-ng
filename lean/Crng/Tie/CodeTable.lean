import Crng.Gen.CodeTable
import Crng.CodeSpec
/-! Obligations of the regenerated *code* layer, table/table.go: the traces of `Table.Dispatch` and `Table.DispatchAggregate`,
as translated from /repo's Go source on this run, equal the closed forms `tableTrace` / `aggregateTrace` of `Crng.CodeSpec` for
every table, environment and input; then what C01 / C02 / C04 / C11 / C19 say about the table, as corollaries on the
translated function. Read off the closed form and stated by no corollary: a received line is counted once and first, and
order validation sits after validation and before the blacklist. -/
namespace Crng.Tie.CodeTable
open Crng.Code Crng.Gen.Code Crng.CodeSpec

/-- the end of both dispatch functions: the route loop, then the unroutable counter unless a route took the line -/
theorem routes_then_counter (name final : Bytes) (rs : List RouteI) :
    (Res.bind (forRange (fun (r : RouteI) (routed : Bool) =>
        if r.Match name = true then Res.bind (r.Dispatch final) fun _ => Res.pure (Step.next true)
        else Res.pure (Step.next routed)) rs false) fun
      | Out.ret (r_ : Unit) => Res.pure r_
      | Out.done routed => if (!routed) = true then emit (inc "table.numUnroutable.Inc") (Res.pure ()) else Res.pure ()).1 =
    routeStage name final rs := by
  rw [forRange_routes, Bool.false_or, Res.bind_fst]
  unfold routeStage
  cases rs.any (·.Match name) <;> rfl

/-- **Table.Dispatch (regenerated) has exactly the trace `tableTrace`** -/
theorem table_dispatch_trace (E : Env) (t : Table) (buf : Bytes) : (t.Dispatch E buf).1 = tableTrace E t buf := by
  unfold Table.Dispatch tableTrace
  -- the four loops, by their closed forms
  simp only [Lib.copy_make, forRange_find, forRange_rewriters, forRange_agg]
  rcases hv : E.m20_ValidatePacket buf t.config.Validation_level_legacy.Level t.config.Validation_level_m20.Level with ⟨key, val, ts, err⟩
  simp only [hv, emit_fst, inc]
  -- both traces begin with the received counter
  congr 1
  generalize rewriteFields t.config.rewriters (Lib.bytes_Fields buf) = fields'
  generalize hag : aggTrace fields' val ts t.config.aggregators = ag
  -- `rest`: what the code does with a line that is valid and in order; it stands on two paths of the code
  generalize hrest : Res.bind (if (t.config.blacklist.any fun m => m.Match (Lib.idx (Lib.bytes_Fields buf) 0)) = true then
      ([Ev.call "table.numBlacklist.Inc" 0 [arg (1 : Int)]], Out.ret ()) else ([], Out.done ())) _ = rest
  have rest_trace : rest.1 =
      if t.config.blacklist.any (fun m => m.Match (Lib.idx (Lib.bytes_Fields buf) 0)) then [inc "table.numBlacklist.Inc"]
      else ag.1 ++ if ag.2 then [] else routeStage (Lib.idx fields' 0) (Lib.bytes_Join fields' [32]) t.config.routes := by
    subst hrest hag
    cases t.config.blacklist.any fun m => m.Match (Lib.idx (Lib.bytes_Fields buf) 0)
    · -- not blacklisted: the aggregators, and unless one withholds the line, the routes and the counter
      simp only [Bool.false_eq_true, if_false, Res.bind, List.nil_append]
      congr 1
      cases (aggTrace fields' val ts t.config.aggregators).2
      · exact routes_then_counter _ _ _
      · rfl
    · rfl
  -- validation and the order check in front of `rest`
  cases err with
  | some e => rfl
  | none =>
    show (if Lib.notNil (none : Err) = true then _ else
        if t.config.Validate_order = true then
          if Lib.notNil (E.validate_Ordered key ts) = true then _ else rest
        else rest).1 = _
    rw [Lib.notNil_none, if_neg Bool.false_ne_true, ite_ite_same, apply_ite Prod.fst, rest_trace]; rfl

/-- **Table.DispatchAggregate (regenerated) has exactly the trace `aggregateTrace`**: routes only -/
theorem table_dispatchAggregate_trace (t : Table) (buf : Bytes) : (t.DispatchAggregate buf).1 = aggregateTrace t buf := by
  unfold Table.DispatchAggregate aggregateTrace
  simp only [decide_eq_true_eq]
  exact routes_then_counter _ _ _

/-! corollaries, stated on the regenerated function -/
/-- C02: a line the validator rejects is counted in, reported with its text and reason, counted invalid — and nothing else
happens (no aggregator, no route, no other counter) -/
theorem dispatch_invalid (E : Env) (t : Table) (buf key : Bytes) (val : F64) (ts : Int) (e : String)
    (hv : E.m20_ValidatePacket buf t.config.Validation_level_legacy.Level t.config.Validation_level_m20.Level = (key, val, ts, some e)) :
    (t.Dispatch E buf).1 = [inc "table.numIn.Inc", Ev.call "table.bad.Add" 0 [arg key, arg buf, arg (some e : Err)], inc "table.numInvalid.Inc"] := by
  rw [table_dispatch_trace]; simp [tableTrace, hv]

/-- C19: with order validation on, a valid point the order validator rejects is counted out-of-order, reported, and goes
nowhere; the blacklist is not even consulted -/
theorem dispatch_out_of_order (E : Env) (t : Table) (buf key : Bytes) (val : F64) (ts : Int) (e : String)
    (hv : E.m20_ValidatePacket buf t.config.Validation_level_legacy.Level t.config.Validation_level_m20.Level = (key, val, ts, none))
    (ho : t.config.Validate_order = true) (hq : E.validate_Ordered key ts = some e) :
    (t.Dispatch E buf).1 = [inc "table.numIn.Inc", Ev.call "table.bad.Add" 0 [arg key, arg buf, arg (some e : Err)], inc "table.numOutOfOrder.Inc"] := by
  rw [table_dispatch_trace]; simp [tableTrace, hv, ho, hq]

/-- C19: with order validation off, `validate.Ordered` has no influence at all -/
theorem dispatch_order_off (E E' : Env) (t : Table) (buf : Bytes) (ho : t.config.Validate_order = false)
    (hE : E'.m20_ValidatePacket = E.m20_ValidatePacket) : (t.Dispatch E' buf).1 = (t.Dispatch E buf).1 := by
  rw [table_dispatch_trace, table_dispatch_trace]; simp [tableTrace, ho, hE]

/-- C01: a valid, in-order line whose first field a blacklist entry accepts is counted blacklisted and goes nowhere -/
theorem dispatch_blacklisted (E : Env) (t : Table) (buf key : Bytes) (val : F64) (ts : Int)
    (hv : E.m20_ValidatePacket buf t.config.Validation_level_legacy.Level t.config.Validation_level_m20.Level = (key, val, ts, none))
    (ho : t.config.Validate_order = false ∨ E.validate_Ordered key ts = none)
    (hb : t.config.blacklist.any (fun m => m.Match (Lib.idx (Lib.bytes_Fields buf) 0)) = true) :
    (t.Dispatch E buf).1 = [inc "table.numIn.Inc", inc "table.numBlacklist.Inc"] := by
  rw [table_dispatch_trace]
  rcases ho with ho | ho <;> simp [tableTrace, hv, ho, hb]

/-- C01 / C04 / C11: an accepted line: aggregators in order until one withholds it; otherwise exactly the routes whose
filter accepts the rewritten first field get the single-space re-joined line, and unroutable is counted iff none does -/
theorem dispatch_accepted (E : Env) (t : Table) (buf key : Bytes) (val : F64) (ts : Int)
    (hv : E.m20_ValidatePacket buf t.config.Validation_level_legacy.Level t.config.Validation_level_m20.Level = (key, val, ts, none))
    (ho : t.config.Validate_order = false ∨ E.validate_Ordered key ts = none)
    (hb : t.config.blacklist.any (fun m => m.Match (Lib.idx (Lib.bytes_Fields buf) 0)) = false) :
    (t.Dispatch E buf).1 =
      inc "table.numIn.Inc" ::
        ((aggTrace (rewriteFields t.config.rewriters (Lib.bytes_Fields buf)) val ts t.config.aggregators).1 ++
          if (aggTrace (rewriteFields t.config.rewriters (Lib.bytes_Fields buf)) val ts t.config.aggregators).2 then []
          else routeStage (Lib.idx (rewriteFields t.config.rewriters (Lib.bytes_Fields buf)) 0)
            (Lib.bytes_Join (rewriteFields t.config.rewriters (Lib.bytes_Fields buf)) [32]) t.config.routes) := by
  rw [table_dispatch_trace]
  rcases ho with ho | ho <;> simp [tableTrace, hv, ho, hb]

/-- the rewriter loop rewrites the first field with the rules in order and leaves the other fields alone -/
theorem rewriteFields_eq (rws : List RewriterI) (f : Bytes) (rest : List Bytes) :
    rewriteFields rws (f :: rest) = rws.foldl (fun n rw => rw.Do n) f :: rest := by
  induction rws generalizing f with
  | nil => rfl
  | cons rw rws ih =>
    -- one turn sets field 0 to `rw.Do` of field 0
    show rewriteFields rws (rw.Do f :: rest) = _
    exact ih (rw.Do f)

/-- a three-field line is re-joined with single spaces -/
theorem join3 (a b c : Bytes) : Lib.bytes_Join [a, b, c] [32] = a ++ [32] ++ b ++ [32] ++ c := by
  simp [Lib.bytes_Join]

/-- the premises of the corollaries are satisfiable: a one-route table forwards `a 1 2` to that route -/
example :
    let E : Env := { (default : Env) with m20_ValidatePacket := fun b _ _ => (b.take 1, 0, 2, none), validate_Ordered := fun _ _ => none }
    let r : RouteI := { id := 7, Key := [], Match := fun _ => true, Dispatch := fun b => ([Ev.call "got" 7 [b]], ()), Shutdown := ([], none) }
    let t : Table := ⟨⟨⟨0⟩, ⟨0⟩, false, [], [], [], [r]⟩⟩
    (t.Dispatch E [97, 32, 49, 32, 50]).1 = [inc "table.numIn.Inc", Ev.call "got" 7 [[97, 32, 49, 32, 50]]] := by decide
end Crng.Tie.CodeTable
