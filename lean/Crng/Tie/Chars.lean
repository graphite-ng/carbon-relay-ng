import Crng.Tie.Util
/-! The skeleton predicates of `Crng.Tie.Util`, evaluated on characters instead of strings.

The kernel is slow on string literals: `String.toList` decodes UTF-8 by well-founded recursion (seconds per statement of a
skeleton), and `String.decEq` first encodes both literals with `Array.push`, linear in their length even when they differ in
the first byte and quadratic when they are equal. On the other hand a literal `"ab"` *is* `String.ofList ['a', 'b']` by
definitional unfolding, `String.ofList` is injective with `(String.ofList l).toList = l`, and the elaborator finds `l` by
unification. So the characters of a skeleton are handed to the kernel (`Chars`) instead of being computed by it, and each
predicate is evaluated on its twin over `List Char`.

Writing an obligation over a skeleton `skel_f : List String` (one statement per line, as `extract/` prints them into
`Crng.Gen.Skel`: `"<nesting depth> <kind> <source text>"`, e.g. `"1 if err != nil"`, and `"2 return "` with its blank):
* `skel_f = [literals]` is proved by `rfl`: the kernel compares literals as such and decodes nothing.
* In a Boolean statement every occurrence of `containing`, `count`, `isInfix`, `isSubseq`, and every `==` between a skeleton
  and a list of literals, is first rewritten by its lemma below, then `decide +kernel`. One lemma per occurrence: `rw`
  instantiates a lemma at its first match and rewrites the instances of that match only. `beq_chars` matches any `==` on
  `List String`; give it `(ys := skel_f)` when an earlier `==` (as in `containing … == […]`) would be taken instead.
* A forgotten rewrite does not fail. `decide +kernel` then evaluates that predicate on strings, in seconds, not milliseconds.
* `chars!` is a tactic block, so `rw` runs it after it has unified the lemma with the goal, when `ys` is known. It works on
  any closed term that reduces to a list of literals (`skel_f.take 4`); on anything else it leaves `Chars [s] ?cs` unsolved.
* `isSubseq` moves to core `List.isSublist`, the same recursion; `isInfix` to its twin `isInfixOf` below. A `==` between two
  single strings (one hidden in a generated definition, which is unfolded first) moves with `ofList_beq`.
* What the rewrites leave on strings is short: the few statements `containing` returns, `head?`, `length`, `take`.
* A file with several obligations over one skeleton names its characters once, `fC : {cs // Chars skel_f cs} := ⟨_, chars!⟩`,
  and rewrites with `fC.2`, so that they are elaborated and checked once. A subtype, because `cs` is found by elaboration and
  has to reach the kernel as data. -/
namespace Crng.Tie

/-- `cs` are the character lists of the strings `ys` -/
inductive Chars : List String → List (List Char) → Prop
  | nil : Chars [] []
  | cons {c ys cs} : Chars ys cs → Chars (String.ofList c :: ys) (c :: cs)

/-- finds `cs` and the derivation of `Chars ys cs`: each step unifies `String.ofList ?c` with a literal -/
macro "chars!" : term => `(by repeat constructor)

theorem Chars.eq_map {ys cs} (h : Chars ys cs) : ys = cs.map String.ofList := by
  induction h with
  | nil => rfl
  | cons _ ih => rw [ih]; rfl

theorem containing_chars {n : List Char} {ys cs} (h : Chars ys cs) :
    containing (String.ofList n) ys = (cs.filter (infixChars n)).map String.ofList := by
  rw [h.eq_map]; simp [containing, List.filter_map, Function.comp_def]

theorem ofList_beq (a b : List Char) : (String.ofList a == String.ofList b) = (a == b) := by
  rw [Bool.eq_iff_iff]; simp [String.ofList_inj]

theorem beq_chars {ys zs cs ds} (hy : Chars ys cs) (hz : Chars zs ds) : (ys == zs) = (cs == ds) := by
  rw [hy.eq_map, hz.eq_map, Bool.eq_iff_iff]
  simp [List.map_inj_right fun _ _ => String.ofList_inj.mp]

theorem count_chars {x : List Char} {ys cs} (h : Chars ys cs) :
    count (String.ofList x) ys = (cs.filter (· == x)).length := by
  rw [h.eq_map]; simp [count, List.filter_map, Function.comp_def, ofList_beq]

/-- `isInfix` over any type with `==` (at `Char` it is `infixChars`) -/
def isInfixOf {α} [BEq α] (xs : List α) : List α → Bool
  | [] => xs.isEmpty
  | y :: ys => xs.isPrefixOf (y :: ys) || isInfixOf xs ys

theorem isPrefixOf_ofList (a b : List (List Char)) :
    (a.map String.ofList).isPrefixOf (b.map String.ofList) = a.isPrefixOf b := by
  induction a generalizing b with
  | nil => rfl
  | cons x a ih => cases b <;> simp [List.isPrefixOf, ofList_beq, ih]

theorem isInfix_chars {xs ys xcs cs} (hx : Chars xs xcs) (hy : Chars ys cs) : isInfix xs ys = isInfixOf xcs cs := by
  rw [hx.eq_map, hy.eq_map]
  clear hy
  induction cs with
  | nil => simp [isInfix, isInfixOf]
  | cons c cs ih => rw [List.map_cons, isInfix, ← List.map_cons, isPrefixOf_ofList, ih]; rfl

theorem isSubseq_chars {xs ys xcs cs} (hx : Chars xs xcs) (hy : Chars ys cs) : isSubseq xs ys = xcs.isSublist cs := by
  rw [hx.eq_map, hy.eq_map]
  clear hx hy
  induction cs generalizing xcs with
  | nil => cases xcs <;> rfl
  | cons c cs ih =>
    cases xcs with
    | nil => rfl
    | cons x xcs =>
      rw [List.map_cons, List.map_cons, isSubseq, List.isSublist, ofList_beq, ← List.map_cons, ih, ih]

end Crng.Tie
