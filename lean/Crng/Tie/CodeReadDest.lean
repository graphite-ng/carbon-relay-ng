import Crng.Gen.CodeReadDest
import Crng.CodeSpecDest
/-! Obligations of the regenerated *code* layer, imperatives/imperatives.go `readDestination`: the function translated from
/repo on this run — the defaults at its top, the switch inside its token loop (18 options, `EOF`, `sep`, default), the conversions after the loop and the
call of `destination.New` — equals, for every token list, the closed form `Crng.CodeSpecDest.readDestinationSpec` built
from the option table (`optKind`, `applyOpt`). C20's "no option is silently ignored, swapped with another, or applied to
the wrong field; every unspecified option takes its documented default" is then read off the table. -/
namespace Crng.Tie.CodeReadDest
open Crng.Code Crng.Gen.Code Crng.CodeSpecDest

theorem whileP_congr {σ ρ : Type} (c c' : σ → Bool) (b b' : σ → Step σ ρ) (hc : ∀ s, c s = c' s) (hb : ∀ s, b s = b' s) :
    ∀ (n : Nat) (s : σ), whileP n c b s = whileP n c' b' s := by
  rw [funext hc, funext hb]; intro n s; rfl

theorem cond_toTuple (d : DRec) (s : Scanner) (t : TokV) :
    tupleCond (d.toTuple s t) = ((t.Token != toki_EOF) && (t.Token != Token.sep)) := rfl

theorem step_toTuple (E : Env) (d : DRec) (s : Scanner) (t : TokV) :
    tupleStep E (d.toTuple s t) = stepMap (fun (x : DRec × Scanner × TokV) => x.1.toTuple x.2.1 x.2.2) (recStep E d s) := rfl

theorem valueOK_not_end (k : OKind) (v : Token) (h : valueTokenOK k v = true) : ((v != toki_EOF) && (v != Token.sep)) = true := by
  cases k <;> simp [valueTokenOK] at h
  · subst h; decide
  · subst h; decide
  · rcases h with h | h <;> subst h <;> decide

/-! ### one unfolding of `optLoop`, case by case -/
theorem optLoop_nil (E : Env) (d : DRec) : optLoop E [] d = .ok (d, ⟨[]⟩) := by rw [optLoop]

theorem optLoop_end (E : Env) {o : TokV} (rest : List TokV) (d : DRec) (h : o.Token = Token.EOF ∨ o.Token = Token.sep) :
    optLoop E (o :: rest) d = .ok (d, ⟨rest⟩) := by
  rw [optLoop]; simp [h]

/-- a token that introduces no destination option is rejected, never skipped -/
theorem unknown_option_rejected (E : Env) (o : TokV) (rest : List TokV) (d : DRec)
    (ho : optKind o.Token = none) (hne : ¬ (o.Token = Token.EOF ∨ o.Token = Token.sep)) :
    optLoop E (o :: rest) d = .error (some "unrecognized option '%s'", ⟨rest⟩) := by
  rw [optLoop]; simp [hne, ho]

/-- an option token at the very end: `Next()` answers `EOF` for its value -/
theorem optLoop_single (E : Env) {o : TokV} (d : DRec) {k : OKind} (ho : optKind o.Token = some k)
    (hne : ¬ (o.Token = Token.EOF ∨ o.Token = Token.sep)) : optLoop E [o] d = .error (errFmtAddRoute, ⟨[]⟩) := by
  rw [optLoop]; simp [hne, ho]

/-- one `option value` pair in front of the remaining options: exactly the table's field is set (`applyOpt`), whatever
follows is read with that record; a value token of the wrong kind is an error -/
theorem option_step (E : Env) (o v : TokV) (rest : List TokV) (d : DRec) (k : OKind)
    (ho : optKind o.Token = some k) (hne : ¬ (o.Token = Token.EOF ∨ o.Token = Token.sep)) :
    optLoop E (o :: v :: rest) d =
      if valueTokenOK k v.Token = false then .error (errFmtAddRoute, ⟨rest⟩)
      else match applyOpt E o.Token v.Value d with
        | .error e => .error (e, ⟨rest⟩)
        | .ok d' => optLoop E rest d' := by
  rw [optLoop]; simp only [hne, ho, if_false]
  cases hv : valueTokenOK k v.Token
  · simp
  · simp only [Bool.true_eq_false, if_false]
    cases ha : applyOpt E o.Token v.Value d <;> rfl

/-! One iteration on each kind of token, spelt the way the generated switch spells its arms (tests with `!=`, the
conversion's two results by projection, its error left in the `err` slot): every arm of the generated loop body is then an
instance of one of these five, up to evaluating the tests on the token (`r` = what the conversion returns, `f` = the
option's setter). -/
section arms
variable {E : Env} {d d' : DRec} {s s1 s2 : Scanner} {t o v : TokV}

theorem not_end_of_optKind {k : OKind} (hk : optKind o.Token = some k) : ¬(o.Token = Token.EOF ∨ o.Token = Token.sep) := by
  rintro (h | h) <;> rw [h] at hk <;> cases hk

theorem tupleStep_end (hs : s.Next = (o, s1)) (h : o.Token = Token.EOF ∨ o.Token = Token.sep) :
    tupleStep E (d.toTuple s t) = .next (d.toTuple s1 o) := by
  simp [step_toTuple, recStep, hs, h]

theorem tupleStep_other (hs : s.Next = (o, s1)) (hk : optKind o.Token = none) (h : ¬(o.Token = Token.EOF ∨ o.Token = Token.sep)) :
    tupleStep E (d.toTuple s t) = .ret (none, some "unrecognized option '%s'", s1) := by
  simp [step_toTuple, recStep, hs, h, hk]

/-- an option token, whatever its kind: the turn in the table's terms (`tupleStep_word/_num/_bool` spell it per kind) -/
theorem tupleStep_opt {k : OKind} (hs : s.Next = (o, s1)) (hv : s1.Next = (v, s2)) (hk : optKind o.Token = some k) :
    tupleStep E (d.toTuple s t) =
      if valueTokenOK k v.Token = false then .ret (none, errFmtAddRoute, s2)
      else match applyOpt E o.Token v.Value d with
        | .error e => .ret (none, e, s2)
        | .ok d' => .next (d'.toTuple s2 v) := by
  simp only [step_toTuple, recStep, hs, hv, hk, not_end_of_optKind hk, if_false, stepMap_ite, stepMap_ret]
  cases applyOpt E o.Token v.Value d <;> rfl

theorem tupleStep_word (hs : s.Next = (o, s1)) (hv : s1.Next = (v, s2)) (hk : optKind o.Token = some .word)
    (hset : applyOpt E o.Token v.Value d = .ok d') :
    tupleStep E (d.toTuple s t) =
      if (v.Token != Token.word) = true then .ret (none, errFmtAddRoute, s2) else .next (d'.toTuple s2 v) := by
  simp [tupleStep_opt hs hv hk, valueTokenOK, hset]

theorem tupleStep_num (hs : s.Next = (o, s1)) (hv : s1.Next = (v, s2)) (hk : optKind o.Token = some .num) (f : Int → DRec)
    (r : Int × Err)
    (hset : applyOpt E o.Token v.Value d =
      match r with
      | (n, none) => .ok { f n with err := none }
      | (_, some e) => .error (some e)) :
    tupleStep E (d.toTuple s t) =
      if (v.Token != Token.num) = true then .ret (none, errFmtAddRoute, s2)
      else if Lib.notNil r.2 = true then .ret (none, r.2, s2)
      else .next (({ f r.1 with err := r.2 } : DRec).toTuple s2 v) := by
  rcases r with ⟨n, _ | e⟩ <;> simp [tupleStep_opt hs hv hk, valueTokenOK, hset, Lib.notNil]

theorem tupleStep_bool (hs : s.Next = (o, s1)) (hv : s1.Next = (v, s2)) (hk : optKind o.Token = some .bool) (msg : String)
    (f : Bool → DRec) (r : Bool × Err)
    (hset : applyOpt E o.Token v.Value d =
      match r with
      | (b, none) => .ok { f b with err := none }
      | (_, some _) => .error (some msg)) :
    tupleStep E (d.toTuple s t) =
      if (v.Token != Token.optTrue && v.Token != Token.optFalse) = true then .ret (none, errFmtAddRoute, s2)
      else if Lib.notNil r.2 = true then .ret (none, some msg, s2)
      else .next (({ f r.1 with err := r.2 } : DRec).toTuple s2 v) := by
  rcases r with ⟨b, _ | e⟩ <;> simp [tupleStep_opt hs hv hk, valueTokenOK, hset, Lib.notNil]
end arms

/-- the fuel-bounded loop is the recursion over the tokens: `toks.length + 2` iterations always suffice. (`∃ t'`:
the state's token slot holds the last token read, which the code after the loop ignores.) -/
theorem whileP_optLoop (E : Env) : ∀ (toks : List TokV) (d : DRec) (t : TokV) (fuel : Nat),
    toks.length + 2 ≤ fuel → tupleCond (d.toTuple ⟨toks⟩ t) = true →
    ∃ t', whileP fuel tupleCond (tupleStep E) (d.toTuple ⟨toks⟩ t) =
      match optLoop E toks d with
      | .error (e, s) => Out.ret (none, e, s)
      | .ok (d', s') => Out.done (d'.toTuple s' t') := by
  intro toks d t fuel
  induction fuel generalizing toks d t with
  | zero => intro hf; omega
  | succ f1 ih =>
    -- one turn (`tupleStep_…`) against one unfolding of `optLoop`, case by case
    intro hf hc
    simp only [whileP, hc, if_true]
    rcases toks with _ | ⟨o, rest⟩
    · rw [tupleStep_end (s := ⟨[]⟩) (o := ⟨Token.EOF, []⟩) rfl (.inl rfl), optLoop_nil]
      exact ⟨_, whileP_done (by simp [cond_toTuple, toki_EOF]) _⟩
    by_cases hend : o.Token = Token.EOF ∨ o.Token = Token.sep
    · rw [tupleStep_end (s := ⟨o :: rest⟩) rfl hend, optLoop_end E rest d hend]
      exact ⟨o, whileP_done (by rcases hend with h | h <;> simp [cond_toTuple, h, toki_EOF]) _⟩
    cases hk : optKind o.Token with
    | none =>
      rw [tupleStep_other (s := ⟨o :: rest⟩) rfl hk hend, unknown_option_rejected E o rest d hk hend]
      exact ⟨t, rfl⟩
    | some k =>
    rcases rest with _ | ⟨v, rest⟩
    · rw [tupleStep_opt (s := ⟨[o]⟩) rfl rfl hk, optLoop_single E d hk hend, valueTokenOK_EOF]
      exact ⟨t, rfl⟩
    rw [tupleStep_opt (s := ⟨o :: v :: rest⟩) rfl rfl hk, option_step E o v rest d k hk hend]
    cases hv : valueTokenOK k v.Token with
    | false => exact ⟨t, rfl⟩
    | true =>
    cases applyOpt E o.Token v.Value d with
    | error e => exact ⟨t, rfl⟩
    | ok d' => exact ih rest d' v (by simp at hf ⊢; omega) (by rw [cond_toTuple]; exact valueOK_not_end k v.Token hv)

/-- `whileP_optLoop` under the name and with the (unused) length bound `n` that the C20 check lists -/
theorem loop_eq (E : Env) : ∀ (n : Nat) (toks : List TokV) (d : DRec) (t : TokV) (fuel : Nat),
    toks.length ≤ n → toks.length + 2 ≤ fuel → tupleCond (d.toTuple ⟨toks⟩ t) = true →
    ∃ t', whileP fuel tupleCond (tupleStep E) (d.toTuple ⟨toks⟩ t) =
      match optLoop E toks d with
      | .error (e, s) => Out.ret (none, e, s)
      | .ok (d', s') => Out.done (d'.toTuple s' t') :=
  fun _ toks d t fuel _ => whileP_optLoop E toks d t fuel

/-- the state the generated loop starts in: the documented defaults -/
theorem toTuple_default (s : Scanner) (t : TokV) :
    ((30000 : Int), (default : Err), (1000 : Int), (2000000 : Int), (default : Bytes), (default : Bytes), (default : Bytes), (default : Bool),
      (default : Bytes), (10000 : Int), (default : Bytes), s, (default : Bool), (10000 : Int), (200 * 1024 * 1024 : Int),
      500 * time_Microsecond, (10000 : Int), time_Second, (default : Bytes), t, 10 * time_Microsecond) = ({} : DRec).toTuple s t := rfl

/-- **readDestination (regenerated) = its closed form**, for every token list, table, route type and route key -/
theorem readDestination_eq (E : Env) (toks : List TokV) (table : TableI) (allowMatcher : Bool) (routeKey : Bytes) :
    readDestination E ⟨toks⟩ table allowMatcher routeKey = readDestinationSpec E toks table allowMatcher routeKey := by
  unfold readDestination
  simp only []   -- zeta-reduces the `let`s and turns each destructuring `let (a, b) := e` into `e.1`, `e.2` (the `rw` needs it)
  rw [whileP_congr _ tupleCond _ (tupleStep E)]
  rotate_left
  · exact fun _ => rfl
  · -- the loop body is `tupleStep E`, arm by arm; `r`, `f` and the message are found by unifying with `applyOpt`
    intro st
    rcases st with ⟨connBufSize, err, flush, ioBufSize, notPrefix, notRegex, notSub, pickle, prefix_, reconn, regex, s, spool, spoolBufSize, spoolMaxBytesPerFile, spoolSleep, spoolSyncEvery, spoolSyncPeriod, sub, t, unspoolSleep⟩
    let d : DRec := { connBufSize, err, flush, ioBufSize, notPrefix, notRegex, notSub, pickle, prefix_, reconn, regex, spool, spoolBufSize,
                      spoolMaxBytesPerFile, spoolSleep, spoolSyncEvery, spoolSyncPeriod, sub, unspoolSleep }
    obtain ⟨tok, tv, s1, hs⟩ : ∃ tok tv s1, s.Next = (⟨tok, tv⟩, s1) := ⟨_, _, _, rfl⟩
    obtain ⟨v, s2, hv⟩ : ∃ v s2, s1.Next = (v, s2) := ⟨_, _, rfl⟩
    simp only [hs, hv]
    cases tok
    case optPrefix | optNotPrefix | optSub | optNotSub | optRegex | optNotRegex =>
      exact (tupleStep_word (d := d) hs hv rfl rfl).symm
    case optFlush | optReconn | optConnBufSize | optIoBufSize | optSpoolBufSize | optSpoolMaxBytesPerFile | optSpoolSyncEvery
        | optSpoolSyncPeriod | optSpoolSleep | optUnspoolSleep =>
      exact (tupleStep_num (d := d) hs hv rfl _ _ rfl).symm
    case optPickle | optSpool => exact (tupleStep_bool (d := d) hs hv rfl _ _ _ rfl).symm
    case EOF | sep => exact (tupleStep_end (d := d) hs (by simp)).symm
    all_goals exact (tupleStep_other (d := d) hs rfl (by simp)).symm
  -- around the loop: the first token must be the address (a word, so the loop condition holds at the start); after the
  -- loop, the matcher check and the two constructors
  cases toks with
  | nil => simp [Scanner.Next, readDestinationSpec]
  | cons a rest =>
    simp only [Scanner.Next, readDestinationSpec]
    by_cases hw : a.Token = word
    case neg => simp [hw]
    obtain ⟨t', ht'⟩ := whileP_optLoop E rest {} a _ (Nat.le_refl _) (by rw [cond_toTuple, hw]; decide)
    simp only [hw, bne_self_eq_false, Bool.false_eq_true, if_false]
    rw [toTuple_default, ht']
    rcases optLoop E rest {} with ⟨e, s⟩ | ⟨d, s⟩
    · rfl
    simp only [DRec.toTuple, finish, show ∀ x y : Bytes, x + y = x ++ y from fun _ _ => rfl]
    rcases hm : E.matcher_New d.prefix_ d.notPrefix d.sub d.notSub d.regex d.notRegex with ⟨m, me⟩
    cases me <;> simp [Lib.notNil, hm]

/-! corollaries: the statements of C20 about destinations, on the regenerated function (with `option_step` and
`unknown_option_rejected` above) -/
/-- an address and nothing else: every option has its documented default (flush 1000 ms, reconn 10000 ms, connbuf 30000,
iobuf 2000000, spoolbuf 10000, spoolmaxbytesperfile 200 MiB, spoolsyncevery 10000, spoolsyncperiod 1 s, spoolsleep 500 µs,
unspoolsleep 10 µs, no pickle, no spool, no filter, the table's spool directory) -/
theorem defaults (E : Env) (addr : Bytes) (table : TableI) (allowMatcher : Bool) (routeKey : Bytes) :
    readDestination E ⟨[⟨Token.word, addr⟩]⟩ table allowMatcher routeKey =
      finish E {} addr table.GetSpoolDir routeKey allowMatcher ⟨[]⟩ := by
  rw [readDestination_eq]
  simp [readDestinationSpec, optLoop]

/-- **every destination option sets exactly its documented field, in the documented unit, and nothing else** — the eighteen
option arms of the regenerated switch, read off the table that `readDestination_eq` ties to the code (`w` = the text of the value
token, `n` / `b` = what `strconv.Atoi` / `ParseBool` make of it): flush and reconn in ms (converted after the loop),
spoolsyncperiod in ms, spoolsleep and unspoolsleep in µs, sizes and counts as given -/
theorem applyOpt_sets_its_field (E : Env) (d : DRec) (w : Bytes) (n : Int) (b : Bool)
    (hA : E.strconv_Atoi (E.strings_TrimSpace w) = (n, none)) (hB : E.strconv_ParseBool w = (b, none)) :
    applyOpt E Token.optPrefix w d = .ok { d with prefix_ := w } ∧ applyOpt E Token.optNotPrefix w d = .ok { d with notPrefix := w } ∧
    applyOpt E Token.optSub w d = .ok { d with sub := w } ∧ applyOpt E Token.optNotSub w d = .ok { d with notSub := w } ∧
    applyOpt E Token.optRegex w d = .ok { d with regex := w } ∧ applyOpt E Token.optNotRegex w d = .ok { d with notRegex := w } ∧
    applyOpt E Token.optFlush w d = .ok { d with flush := n, err := none } ∧
    applyOpt E Token.optReconn w d = .ok { d with reconn := n, err := none } ∧
    applyOpt E Token.optPickle w d = .ok { d with pickle := b, err := none } ∧
    applyOpt E Token.optSpool w d = .ok { d with spool := b, err := none } ∧
    applyOpt E Token.optConnBufSize w d = .ok { d with connBufSize := n, err := none } ∧
    applyOpt E Token.optIoBufSize w d = .ok { d with ioBufSize := n, err := none } ∧
    applyOpt E Token.optSpoolBufSize w d = .ok { d with spoolBufSize := n, err := none } ∧
    applyOpt E Token.optSpoolMaxBytesPerFile w d = .ok { d with spoolMaxBytesPerFile := n, err := none } ∧
    applyOpt E Token.optSpoolSyncEvery w d = .ok { d with spoolSyncEvery := n, err := none } ∧
    applyOpt E Token.optSpoolSyncPeriod w d = .ok { d with spoolSyncPeriod := n * 1000000, err := none } ∧
    applyOpt E Token.optSpoolSleep w d = .ok { d with spoolSleep := n * 1000, err := none } ∧
    applyOpt E Token.optUnspoolSleep w d = .ok { d with unspoolSleep := n * 1000, err := none } := by
  simp [applyOpt, hA, hB, time_Millisecond, time_Microsecond]

/-- `prefix=` and `sub=` in either order (each sets its own field) -/
theorem prefix_then_sub (E : Env) (a b : Bytes) (d : DRec) :
    (applyOpt E Token.optPrefix a d >>= applyOpt E Token.optSub b) = (applyOpt E Token.optSub b d >>= applyOpt E Token.optPrefix a) := rfl

/-- a well-formed `option value` pair -/
def PairOK (p : TokV × TokV) : Prop :=
  ¬ (p.1.Token = Token.EOF ∨ p.1.Token = Token.sep) ∧ ∃ k, optKind p.1.Token = some k ∧ valueTokenOK k p.2.Token = true

def applyPairs (E : Env) : List (TokV × TokV) → DRec → Except Err DRec
  | [], d => .ok d
  | p :: ps, d => match applyOpt E p.1.Token p.2.Value d with
    | .error e => .error e
    | .ok d' => applyPairs E ps d'

def flatten : List (TokV × TokV) → List TokV
  | [] => []
  | p :: ps => p.1 :: p.2 :: flatten ps

/-- **every option of a well-formed option list is applied, in order, to exactly its field; none is ignored**: the option
loop on `o₁ v₁ … oₙ vₙ` is the left fold of `applyOpt` over the pairs, or stops at the first conversion error -/
theorem optLoop_pairs (E : Env) (ps : List (TokV × TokV)) (h : ∀ p ∈ ps, PairOK p) (d : DRec) :
    (∀ d', applyPairs E ps d = .ok d' → optLoop E (flatten ps) d = .ok (d', ⟨[]⟩)) ∧
    (∀ e, applyPairs E ps d = .error e → ∃ s, optLoop E (flatten ps) d = .error (e, s)) := by
  induction ps generalizing d with
  | nil =>
    refine ⟨fun d' h => ?_, fun e h => (by cases h)⟩
    obtain rfl : d = d' := Except.ok.inj h
    exact optLoop_nil E d
  | cons p ps ih =>
    obtain ⟨hne, k, hk, hv⟩ := h p (List.mem_cons_self ..)
    have hrest : ∀ q ∈ ps, PairOK q := fun q hq => h q (List.mem_cons_of_mem _ hq)
    simp only [flatten, applyPairs]
    rw [option_step E p.1 p.2 (flatten ps) d k hk hne]
    simp only [hv, Bool.true_eq_false, if_false]
    cases ha : applyOpt E p.1.Token p.2.Value d with
    | error e =>
      refine ⟨fun d' h => (by cases h), fun e' h => ?_⟩
      obtain rfl : e = e' := Except.error.inj h
      exact ⟨_, rfl⟩
    | ok d1 => exact ih hrest d1

end Crng.Tie.CodeReadDest
