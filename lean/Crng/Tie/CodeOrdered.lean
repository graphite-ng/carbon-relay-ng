import Crng.Gen.CodeOrdered
/-! Obligations of the regenerated *code* layer, validate/ordered.go `Ordered`: with the shared hasher empty on entry
(which the function re-establishes on every path), a point is accepted exactly when its timestamp is strictly greater
than the value stored for `hash(key)`; acceptance stores the timestamp for that hash and for no other; rejection stores
nothing and answers `errNotNewer`; hence, per hash value, the accepted timestamps increase strictly over any history
(the statement `Crng.Props.C19` proves for the model `Crng.Ord`, here for the function as regenerated). -/
namespace Crng.Tie.CodeOrdered
open Crng.Code Crng.Gen.Code

/-- whatever the shared hasher holds on entry: the digest is taken of that followed by the key, and the hasher is handed
back empty on both paths -/
theorem ordered_eq_any (m : MapII) (h : Hasher64) (key : Bytes) (ts : Int) :
    validate_Ordered m h key ts =
      (if ts > Lib.mapGet m (h.sum (h.data ++ key)) then none else errNotNewer,
       if ts > Lib.mapGet m (h.sum (h.data ++ key)) then Lib.mapSet m (h.sum (h.data ++ key)) ts else m,
       { h with data := [] }) := by
  unfold validate_Ordered
  simp only [Hasher64.Write, Hasher64.Sum64, Hasher64.Reset]
  by_cases hgt : ts > Lib.mapGet m (h.sum (h.data ++ key)) <;> simp [hgt]

/-- **validate.Ordered (regenerated), closed form** -/
theorem ordered_eq (m : MapII) (h : Hasher64) (key : Bytes) (ts : Int) (hd : h.data = []) :
    validate_Ordered m h key ts =
      (if ts > Lib.mapGet m (h.sum key) then none else errNotNewer,
       if ts > Lib.mapGet m (h.sum key) then Lib.mapSet m (h.sum key) ts else m, h) := by
  obtain ⟨sum, data⟩ := h
  subst hd
  exact ordered_eq_any ..

/-- the hasher is handed back empty on every path (accept and reject): the next call hashes its own key only -/
theorem hasher_restored (m : MapII) (h : Hasher64) (key : Bytes) (ts : Int) :
    (validate_Ordered m h key ts).2.2.data = [] ∧ (validate_Ordered m h key ts).2.2.sum = h.sum := by
  rw [ordered_eq_any]; exact ⟨rfl, rfl⟩

/-! `accept_iff_newer` and `accepted_increasing` mirror `Crng.Ord.accept_iff_newer` and `accepted_strictly_increasing`; they
rest on `Lib.mapGet_set_same` / `_other`, the counterparts of `Crng.Ord.get_set_same` / `_other` on the model's map. -/
/-- accepted ⇒ strictly newer than what was stored, and now stored; rejected ⇒ not newer, map untouched -/
theorem accept_iff_newer (m : MapII) (h : Hasher64) (key : Bytes) (ts : Int) (hd : h.data = []) :
    ((validate_Ordered m h key ts).1 = none ↔ ts > Lib.mapGet m (h.sum key)) ∧
    ((validate_Ordered m h key ts).1 = none → Lib.mapGet (validate_Ordered m h key ts).2.1 (h.sum key) = ts) ∧
    ((validate_Ordered m h key ts).1 ≠ none → (validate_Ordered m h key ts).2.1 = m) ∧
    (∀ k', k' ≠ h.sum key → Lib.mapGet (validate_Ordered m h key ts).2.1 k' = Lib.mapGet m k') := by
  rw [ordered_eq m h key ts hd]
  by_cases hgt : ts > Lib.mapGet m (h.sum key)
  · refine ⟨by simp [hgt], fun _ => by simp [hgt, Lib.mapGet_set_same], by simp [hgt], fun k' hk => ?_⟩
    simp only [hgt, if_true]; exact Lib.mapGet_set_other _ _ _ _ hk
  · simp [hgt, errNotNewer]

/-- a history of calls, as the table makes them -/
def runOrdered : MapII → Hasher64 → List (Bytes × Int) → List Bool
  | _, _, [] => []
  | m, h, (k, ts) :: es =>
    ((validate_Ordered m h k ts).1 == none) :: runOrdered (validate_Ordered m h k ts).2.1 (validate_Ordered m h k ts).2.2 es

/-- timestamps accepted for one hash value along a history are strictly increasing (C19, on the regenerated code;
names are identified by their hash, as in the code — `Crng.Props.C19` states the injectivity assumption) -/
theorem accepted_increasing (hk : Int) : ∀ (es : List (Bytes × Int)) (m : MapII) (h : Hasher64), h.data = [] →
    ∀ acc : List Int,
      acc = (es.zip (runOrdered m h es)).filterMap (fun p => if h.sum p.1.1 = hk ∧ p.2 = true then some p.1.2 else none) →
      (∀ t ∈ acc, Lib.mapGet m hk < t) ∧ acc.Pairwise (· < ·) := by
  intro es
  induction es with
  | nil => intro m h _ acc hacc; subst hacc; simp [runOrdered]
  | cons e es ih =>
    rintro m h hd _ rfl
    obtain ⟨k, ts⟩ := e
    -- by the closed form, the rest of the history runs from the updated map (accepted) or the same map (rejected)
    simp only [runOrdered, ordered_eq m h k ts hd, List.zip_cons_cons, List.filterMap_cons]
    by_cases hgt : ts > Lib.mapGet m (h.sum k)
    · obtain ⟨ih1, ih2⟩ := ih (Lib.mapSet m (h.sum k) ts) h hd _ rfl
      simp only [hgt, if_true, beq_self_eq_true, and_true]
      by_cases hkk : h.sum k = hk
      · subst hkk
        rw [Lib.mapGet_set_same] at ih1
        simp only [if_true]
        exact ⟨List.forall_mem_cons.mpr ⟨hgt, fun t ht => Int.lt_trans hgt (ih1 t ht)⟩, List.pairwise_cons.mpr ⟨ih1, ih2⟩⟩
      · rw [Lib.mapGet_set_other _ _ _ _ (Ne.symm hkk)] at ih1
        simp only [hkk, if_false]
        exact ⟨ih1, ih2⟩
    · simp only [hgt, if_false, errNotNewer, reduceCtorEq, beq_iff_eq, and_false]
      exact ih m h hd _ rfl

example : (validate_Ordered [] ⟨fun _ => 5, []⟩ [1] 10).1 = none ∧ (validate_Ordered [(5, 10)] ⟨fun _ => 5, []⟩ [1] 10).1 = errNotNewer := by
  decide
end Crng.Tie.CodeOrdered
