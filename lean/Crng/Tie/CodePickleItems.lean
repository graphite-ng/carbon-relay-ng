import Crng.Gen.CodePickleItems
import Crng.CodeSpec
/-! Obligations of the regenerated *code* layer, input/pickle.go: the item loop of `Pickle.Handle` (the statement labelled
`ItemLoop`), as translated from /repo on this run, turns each decoded item `(name, (timestamp, value))` — tuple or list at
both levels, name a string, timestamp and value a string, an integer (any width, or a long) or a float — into the plain-text
line `name value timestamp` and hands it to the dispatcher, in order; every other item is counted invalid, once, and skipped
without affecting the items after it (C13's "a structurally invalid item … is counted as invalid and skipped"). The
conversions `%d`, `%f`, `%.0f` are Go's (parameter `Fmt`; `Crng.FloatFmt` is the validated model), og-rek's decoder is
external (`PyVal` is what it hands over). -/
namespace Crng.Tie.CodePickleItems
open Crng.Code Crng.Gen.Code Crng.CodeSpec

def pair : PyVal → Option (PyVal × PyVal)
  | .tuple [a, b] => some (a, b)
  | .list [a, b] => some (a, b)
  | _ => none

/-- a scalar as text: strings verbatim, integers `%d`, floats with the given float format -/
def scalar (fmt : Fmt) (ff : PyVal → Bytes) : PyVal → Option Bytes
  | .str s => some s
  | .int z => some (fmt.d (.int z))
  | .big z => some (fmt.d (.big z))
  | .float b => some (ff (.float b))
  | _ => none

/-- one item → its plain-text line, or `none` = invalid -/
def itemLine (fmt : Fmt) (item : PyVal) : Option Bytes :=
  match pair item with
  | none => none
  | some (nameV, dataV) =>
    match nameV with
    | .str name =>
      match pair dataV with
      | none => none
      | some (tsV, valV) =>
        match scalar fmt fmt.f valV, scalar fmt fmt.f0 tsV with
        | some v, some t => some (name ++ [32] ++ v ++ [32] ++ t)
        | _, _ => none
    | _ => none

def itemTrace (p : PickleP) (item : PyVal) : List Ev :=
  match itemLine p.fmt item with
  | none => [Ev.call "p.dispatcher.IncNumInvalid" 0 []]
  | some l => (p.dispatcher.Dispatch l).1

theorem forRange_each {α : Type} (body : α → Unit → Res (Step Unit Unit)) (tr : α → List Ev)
    (h : ∀ x, body x () = (tr x, Step.next ())) (xs : List α) :
    forRange body xs () = (xs.flatMap tr, Out.done ()) :=
  forRange_all body tr h xs

theorem hadd (x y : Bytes) : x + y = x ++ y := rfl

theorem len_pair {α} (a b : α) : (Lib.len [a, b] != 2) = false := rfl

theorem itemTrace_list (p : PickleP) (v : List PyVal) : itemTrace p (.list v) = itemTrace p (.tuple v) := by
  rcases v with _ | ⟨a, _ | ⟨b, _ | ⟨c, r⟩⟩⟩ <;> rfl
theorem itemTrace_data_list (p : PickleP) (name : Bytes) (v : List PyVal) :
    itemTrace p (.tuple [.str name, .list v]) = itemTrace p (.tuple [.str name, .tuple v]) := by
  rcases v with _ | ⟨a, _ | ⟨b, _ | ⟨c, r⟩⟩⟩ <;> rfl

/-- a well-shaped item: the value is looked at first, then the timestamp, as in the code -/
theorem itemTrace_scalars (p : PickleP) (name : Bytes) (ts val : PyVal) :
    itemTrace p (.tuple [.str name, .tuple [ts, val]]) =
      match scalar p.fmt p.fmt.f val with
      | some v =>
        (match scalar p.fmt p.fmt.f0 ts with
        | some t => (p.dispatcher.Dispatch (name ++ [32] ++ v ++ [32] ++ t)).1
        | none => [Ev.call "p.dispatcher.IncNumInvalid" 0 []])
      | none => [Ev.call "p.dispatcher.IncNumInvalid" 0 []] := by
  unfold itemTrace itemLine
  simp only [pair]
  cases scalar p.fmt p.fmt.f val <;> cases scalar p.fmt p.fmt.f0 ts <;> rfl

/-- The translated body is four nested continuations: `k1` gets the item's elements, `k2` (once the name is known to be
a string) the elements of its second component, `k3` the value as text, `k4` the timestamp as text. `k1`, `k2`, `k3` are
each shown to compute `itemTrace` of what is known of the item so far (`k4` is the last step inside `hk3`); every way out of
the shape is `rfl`. -/
theorem items_trace (p : PickleP) (decoded : List PyVal) :
    (Pickle_Handle_items p decoded).1 = decoded.flatMap (itemTrace p) := by
  unfold Pickle_Handle_items
  rw [forRange_each _ (itemTrace p)]
  · rw [Res.bind_fst]; exact List.append_nil _
  intro raw
  extract_lets _ _ k1
  have hk1 : ∀ item, k1 item = (itemTrace p (.tuple item), Step.next ()) := by
    rintro (_ | ⟨a, _ | ⟨data, _ | ⟨_, _⟩⟩⟩)
    · rfl -- length 0
    · rfl -- length 1
    · cases a with
      | str name =>
        simp -zeta only [k1, len_pair, Lib.idx_zero, Lib.idx_one, Lib.asString, Bool.false_eq_true, if_false, Bool.not_true]
        extract_lets k2
        have hk2 : ∀ d, k2 d = (itemTrace p (.tuple [.str name, .tuple d]), Step.next ()) := by
          rintro (_ | ⟨ts, _ | ⟨val, _ | ⟨_, _⟩⟩⟩)
          · rfl -- length 0
          · rfl -- length 1
          · simp -zeta only [k2, len_pair, Lib.idx_zero, Lib.idx_one, Bool.false_eq_true, if_false, itemTrace_scalars]
            extract_lets _ _ _ k3
            have hk3 : ∀ v, k3 v = (match scalar p.fmt p.fmt.f0 ts with
                | some t => (p.dispatcher.Dispatch (name ++ [32] ++ v ++ [32] ++ t)).1
                | none => [Ev.call "p.dispatcher.IncNumInvalid" 0 []], Step.next ()) := by
              intro v
              cases ts with
              | str _ | int _ | big _ | float _ => exact Res.bind_const _ _
              | _ => rfl
            cases val with
            | str _ | int _ | big _ | float _ => exact hk3 _
            | _ => rfl
          · rfl -- length ≥ 3
        cases data with
        | tuple v => exact hk2 v
        | list v => rw [itemTrace_data_list]; exact hk2 v
        | _ => rfl
      | _ => rfl
    · rfl -- length ≥ 3
  cases raw with
  | tuple v => exact hk1 v
  | list v => rw [itemTrace_list]; exact hk1 v
  | _ => rfl

/-- an invalid item does not affect the others: the trace of a frame is the concatenation of its items' traces, each
item's own depending on that item alone (this is the theorem: `itemTrace p x` has no other argument) -/
theorem item_independence (p : PickleP) (pre post : List PyVal) (x : PyVal) :
    (Pickle_Handle_items p (pre ++ x :: post)).1 =
      (Pickle_Handle_items p pre).1 ++ itemTrace p x ++ (Pickle_Handle_items p post).1 := by
  simp [items_trace]

/-- a well-formed item is dispatched as `name value timestamp` -/
example (p : PickleP) :
    itemLine p.fmt (.tuple [.str [97], .tuple [.str [49], .str [50]]]) = some [97, 32, 50, 32, 49] := rfl

end Crng.Tie.CodePickleItems
