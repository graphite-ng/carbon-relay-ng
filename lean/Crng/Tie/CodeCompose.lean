import Crng.Tie.CodeTable
import Crng.Tie.CodeRoute
import Crng.Tie.CodeMatcher
import Crng.Tie.CodeAgg
import Crng.Gen.CodeFilters
/-! The regenerated functions composed: a table whose blacklist entries, aggregators, routes and destinations are the
*translated* `Matcher.Match`, `Aggregator.AddMaybe`, `SendAllMatch.Dispatch` / `SendFirstMatch.Dispatch` plugged into the
interfaces `Table.Dispatch` calls through. The statements below are C01 and C11 end to end, about code regenerated from
/repo on this run: which destination queues receive which bytes for an accepted line, and when a raw metric is withheld. -/
namespace Crng.Tie.CodeCompose
open Crng.Code Crng.Gen.Code Crng.CodeSpec Crng.Tie.CodeRoute

/-- a destination as a route sees it: its filter is the translated `Matcher.Match` -/
def destOf (id : Nat) (m : Matcher) : DestI := { id, Match := m.Match }
/-- a carbon route as the table sees it -/
def sendAllRoute (id : Nat) (key : Bytes) (m : Matcher) (ds : List DestI) : RouteI :=
  { id, Key := key, Match := m.Match, Dispatch := (SendAllMatch.mk ⟨ds⟩).Dispatch, Shutdown := ([], none) }
def sendFirstRoute (id : Nat) (key : Bytes) (m : Matcher) (ds : List DestI) : RouteI :=
  { id, Key := key, Match := m.Match, Dispatch := (SendFirstMatch.mk ⟨ds⟩).Dispatch, Shutdown := ([], none) }
/-- an aggregator as the table sees it: the translated `AddMaybe` -/
def aggOf (a : Aggregator) : AggregatorI := { id := a.id, AddMaybe := a.AddMaybe, Shutdown := ([], ()) }
def blackOf (id : Nat) (m : Matcher) : MatcherI := ⟨id, m.Match⟩

/-- the filter of a real destination / carbon route is its matcher's (translated) `Match`: `Destination.Match` and
`baseRoute.Match` only take the lock / load the published config around it -/
theorem destination_match_eq (d : Destination) (s : Bytes) : d.Match s = d.Matcher.Match s := rfl
theorem baseRoute_match_eq (r : baseRoute) (s : Bytes) : r.Match s = r.config.Matcher.Match s := rfl
/-- … so, with sound derived prefixes, both decide by the documented six-condition conjunction on what they are given -/
theorem destination_match_spec (d : Destination) (h : (Crng.Tie.CodeMatcher.absM d.Matcher).PrefixOK) (s : Bytes) :
    d.Match s = (Crng.Tie.CodeMatcher.absM d.Matcher).spec s :=
  (destination_match_eq d s).trans (Crng.Tie.CodeMatcher.matcher_match_spec _ h s)
theorem baseRoute_match_spec (r : baseRoute) (h : (Crng.Tie.CodeMatcher.absM r.config.Matcher).PrefixOK) (s : Bytes) :
    r.Match s = (Crng.Tie.CodeMatcher.absM r.config.Matcher).spec s :=
  (baseRoute_match_eq r s).trans (Crng.Tie.CodeMatcher.matcher_match_spec _ h s)

/-- hand-offs into destination queues -/
def isDestSend : Ev → Bool
  | .call name _ _ => name == "dest.In<-"

/-- of the route stage only the routes' own events can be hand-offs: the unroutable counter is none -/
theorem routeStage_dest_sends (name final : Bytes) (rs : List RouteI) :
    (routeStage name final rs).filter isDestSend =
      ((rs.filter (·.Match name)).flatMap fun r => (r.Dispatch final).1).filter isDestSend := by
  unfold routeStage routeTrace
  split <;> simp [isDestSend, inc]

/-- the only event of `AddMaybe` is the hand-off into the aggregator's own queue -/
theorem addMaybe_no_dest_send (a : Aggregator) (fields : List Bytes) (val : F64) (ts : Int) :
    (a.AddMaybe fields val ts).1.filter isDestSend = [] := by
  rw [Crng.Tie.CodeAgg.addMaybe_eq]; simp only []; split <;> simp [isDestSend]

theorem sendAllRoute_dispatch (id : Nat) (key : Bytes) (m : Matcher) (ds : List DestI) (final : Bytes) :
    ((sendAllRoute id key m ds).Dispatch final).1 = (ds.filter (·.Match (metricName final))).map (sendEv final) :=
  sendAll_trace _ _
theorem sendFirstRoute_dispatch (id : Nat) (key : Bytes) (m : Matcher) (ds : List DestI) (final : Bytes) :
    ((sendFirstRoute id key m ds).Dispatch final).1 = ((ds.filter (·.Match (metricName final))).take 1).map (sendEv final) :=
  sendFirst_trace _ _

/-- the aggregator stage made of translated `AddMaybe`s hands nothing to a destination queue -/
theorem aggTrace_no_dest_send (fields : List Bytes) (val : F64) (ts : Int) (as : List Aggregator) :
    ((aggTrace fields val ts (as.map aggOf)).1.filter isDestSend) = [] := by
  induction as with
  | nil => rfl
  | cons a as ih =>
    simp only [List.map_cons, aggTrace, aggOf] at ih ⊢
    split <;> simp [List.filter_append, addMaybe_no_dest_send, ih]

/-- the raw metric is withheld from the routes exactly when some drop-raw aggregator's cheap filter passes and its
(cached) regex stage confirms — C11's "exactly those raw metrics the aggregation consumes" -/
theorem consumed_iff (fields : List Bytes) (val : F64) (ts : Int) (as : List Aggregator) :
    (aggTrace fields val ts (as.map aggOf)).2 =
      as.any (fun a => a.DropRaw && a.Matcher.PreMatch (Lib.idx fields 0) && (a.matchWithCache (Lib.idx fields 0)).2) := by
  rw [aggTrace_snd, List.any_map]
  congr 1
  funext a
  simp only [Function.comp, aggOf, Crng.Tie.CodeAgg.addMaybe_eq]
  cases a.Matcher.PreMatch (Lib.idx fields 0) <;> cases a.DropRaw <;> cases (a.matchWithCache (Lib.idx fields 0)).2 <;> rfl

/-- **C01 end to end on the regenerated code.** For a line that the validator accepts, that is in order, not blacklisted
and not withheld by a drop-raw aggregation, the hand-offs into destination queues made by `Table.Dispatch` are exactly:
for each route, in table order, whose filter accepts the rewritten name — that route's hand-offs of the re-joined line
(for a send-all route: every destination whose filter accepts the line's name, in configured order, each once; for a
send-first route: the first of them). Nothing else is handed to any destination. -/
theorem dispatch_dest_sends (E : Env) (t : Table) (as : List Aggregator) (buf key : Bytes) (val : F64) (ts : Int)
    (hag : t.config.aggregators = as.map aggOf)
    (hv : E.m20_ValidatePacket buf t.config.Validation_level_legacy.Level t.config.Validation_level_m20.Level = (key, val, ts, none))
    (ho : t.config.Validate_order = false ∨ E.validate_Ordered key ts = none)
    (hb : t.config.blacklist.any (fun m => m.Match (Lib.idx (Lib.bytes_Fields buf) 0)) = false)
    (hc : (aggTrace (rewriteFields t.config.rewriters (Lib.bytes_Fields buf)) val ts t.config.aggregators).2 = false) :
    (t.Dispatch E buf).1.filter isDestSend =
      ((t.config.routes.filter (·.Match (Lib.idx (rewriteFields t.config.rewriters (Lib.bytes_Fields buf)) 0))).flatMap
        fun r => (r.Dispatch (Lib.bytes_Join (rewriteFields t.config.rewriters (Lib.bytes_Fields buf)) [32])).1).filter isDestSend := by
  -- the trace is the received counter, the aggregators' events, the routes' events and perhaps the unroutable counter;
  -- only the routes' events can be hand-offs to a destination
  rw [Crng.Tie.CodeTable.dispatch_accepted E t buf key val ts hv ho hb, hc]
  have hin : isDestSend (inc "table.numIn.Inc") = false := rfl
  have hagg : (aggTrace (rewriteFields t.config.rewriters (Lib.bytes_Fields buf)) val ts t.config.aggregators).1.filter isDestSend = [] := by
    rw [hag]; exact aggTrace_no_dest_send _ val ts as
  simp only [Bool.false_eq_true, if_false, List.filter_cons, List.filter_append, hin, hagg, routeStage_dest_sends, List.nil_append]

/-- … and a blacklisted, invalid or out-of-order line is handed to no destination at all -/
theorem rejected_no_dest_sends (E : Env) (t : Table) (buf : Bytes)
    (h : (E.m20_ValidatePacket buf t.config.Validation_level_legacy.Level t.config.Validation_level_m20.Level).2.2.2.isSome = true ∨
         (t.config.Validate_order = true ∧ (E.validate_Ordered
            (E.m20_ValidatePacket buf t.config.Validation_level_legacy.Level t.config.Validation_level_m20.Level).1
            (E.m20_ValidatePacket buf t.config.Validation_level_legacy.Level t.config.Validation_level_m20.Level).2.2.1).isSome = true) ∨
         t.config.blacklist.any (fun m => m.Match (Lib.idx (Lib.bytes_Fields buf) 0)) = true) :
    (t.Dispatch E buf).1.filter isDestSend = [] := by
  rw [Crng.Tie.CodeTable.table_dispatch_trace]
  unfold tableTrace
  simp only []
  generalize E.m20_ValidatePacket buf _ _ = v at h ⊢
  -- the first three exits of `tableTrace` emit counters and the report of a bad line only; `h` rules out the fourth
  by_cases hv : v.2.2.2.isSome = true
  · simp [hv, isDestSend, inc]
  · by_cases ho : (t.config.Validate_order && (E.validate_Ordered v.1 v.2.2.1).isSome) = true
    · simp [hv, ho, isDestSend, inc]
    · have hb : t.config.blacklist.any (fun m => m.Match (Lib.idx (Lib.bytes_Fields buf) 0)) = true := by
        rcases h with h | ⟨h1, h2⟩ | h
        · exact absurd h hv
        · exact absurd (by rw [h1, h2]; rfl) ho
        · exact h
      simp [hv, ho, hb, isDestSend, inc]

end Crng.Tie.CodeCompose
