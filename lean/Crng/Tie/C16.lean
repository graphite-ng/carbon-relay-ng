import Crng.Tie.Chars
import Crng.Gen.Skel
/-! regenerated obligations for C16: `Pickle` and `ParseDataPoint` (`Crng/Pickle.lean`), and the schema lookup of the Kafka-mdm route
(`parseMetric`, `WhisperSchemas`; `Crng/Schemas.lean`) -/
namespace Crng.Tie.C16
open Crng.Tie

/-- pickle: `[(name, (time, value))]`, 4-byte big-endian length of the pickle, then the pickle -/
theorem pickle_ok : isSubseq
    ["0 assign point := ogorek.Tuple{string(dp.Name), ogorek.Tuple{dp.Time, dp.Val}}", "0 assign list := []interface{}{point}",
     "0 call pickler.Encode(list)", "0 assign err := binary.Write(messageBuf, binary.BigEndian, uint32(dataBuf.Len()))",
     "0 call messageBuf.Write(dataBuf.Bytes())", "0 return messageBuf.Bytes()"]
    Crng.Gen.skel_destination_Pickle = true := by
  rw [isSubseq_chars chars! chars!]; decide +kernel

theorem parseDataPoint_ok : isSubseq
    ["0 if len(elements) != 3", "0 assign val, err := strconv.ParseFloat(elements[1], 64)", "0 if err != nil", "1 return nil, err",
     "0 assign timestamp, err := strconv.ParseUint(elements[2], 10, 32)", "0 if err != nil", "1 return nil, err",
     "0 return &Datapoint{name, val, uint32(timestamp)}, nil"]
    Crng.Gen.skel_destination_ParseDataPoint = true := by
  rw [isSubseq_chars chars! chars!]; decide +kernel

/-- parseMetric: split on `;`, sort the tags, present the untagged name as itself, match the presented name, first retention -/
theorem parseMetric_ok : isSubseq
    ["0 assign timestamp, err := strconv.ParseUint(elements[2], 10, 32)",
     "0 assign nameWithTags := elements[0]", "0 assign elements = strings.Split(nameWithTags, \";\")", "0 assign name := elements[0]",
     "0 assign tags := elements[1:]", "0 call sort.Strings(tags)", "0 assign nameWithTags = name", "0 if len(tags) > 0",
     "1 assign nameWithTags = fmt.Sprintf(\"%s;%s\", name, strings.Join(tags, \";\"))", "0 assign s, ok := schemas.Match(nameWithTags)",
     "0 assign md := schema.MetricData{ Name: name, Interval: s.Retentions[0].SecondsPerPoint(), Value: val, Unit: \"unknown\", Time: int64(timestamp), Mtype: \"gauge\", Tags: tags, OrgId: orgId, }",
     "0 assign err = md.Validate()", "0 if err != nil", "1 return nil, err"]
    Crng.Gen.skel_route_parseMetric = true := by
  rw [isSubseq_chars chars! chars!]; decide +kernel

/-- rule order: key `p<<32 - i`, sorted by `>=`, first match wins -/
theorem rules_ok :
    (isSubseq ["1 assign schema.Priority = int64(p)<<32 - int64(i)", "0 call sort.Sort(schemas)"] Crng.Gen.skel_persister_ReadWhisperSchemas &&
     Crng.Gen.skel_persister_WhisperSchemas_Less == ["0 return s[i].Priority >= s[j].Priority"] &&
     Crng.Gen.skel_persister_WhisperSchemas_Match == ["0 range _, schema := range s", "1 if schema.Pattern.MatchString(metric)", "2 return schema, true", "0 return Schema{}, false"]) = true := by
  rw [beq_chars chars! chars!, beq_chars chars! chars!, isSubseq_chars chars! chars!]
  decide +kernel

end Crng.Tie.C16
