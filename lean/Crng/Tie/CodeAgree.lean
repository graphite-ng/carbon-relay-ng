import Crng.Tie.CodeReadAgg
import Crng.Tie.CodeCfg
import Crng.Gen.CodeReadSmall
/-! C20's headline on code regenerated from /repo on this run: the init/admin command and the TOML section produce the same
routing-table entry — for aggregations, blacklist entries and rewriters; and `readRouteOpts` (the filter options of a route
command) equals its closed form. -/
namespace Crng.Tie.CodeAgree
open Crng.Code Crng.Gen.Code Crng.CodeSpecAgg Crng.CodeSpec

/-- the command `addAgg <fn> prefix=… notPrefix=… sub=… notSub=… regex=… notRegex=… <fmt> <interval> <wait> cache=… dropRaw=…`
as tokens (`fnTok` = the function token with its trailing blank, `iv` / `wv` / `cv` / `dv` = the texts of the two numbers and
the two booleans) -/
def cmdTokens (fnTok : TokV) (a : AggregationCfg) (iv wv cv dv : TokV) : List TokV :=
  [fnTok, ⟨Token.optPrefix, []⟩, ⟨Token.word, a.Prefix⟩, ⟨Token.optNotPrefix, []⟩, ⟨Token.word, a.NotPrefix⟩,
   ⟨Token.optSub, []⟩, ⟨Token.word, a.Sub⟩, ⟨Token.optNotSub, []⟩, ⟨Token.word, a.NotSub⟩,
   ⟨Token.optRegex, []⟩, ⟨Token.word, a.Regex⟩, ⟨Token.optNotRegex, []⟩, ⟨Token.word, a.NotRegex⟩,
   ⟨Token.word, a.Format⟩, iv, wv, ⟨Token.optCache, []⟩, cv, ⟨Token.optDropRaw, []⟩, dv]

/-- **C20, aggregations: the command and the TOML section produce the same aggregator.** When the command spells the options of
an `[[aggregation]]` section (its numbers and booleans parse to the section's values), `readAddAgg` and `InitAggregation` —
both regenerated from /repo — register the same object (same `matcher.New` and `aggregator.New` arguments), or both fail. -/
theorem agg_cmd_toml_agree (E : Env) (table : TableI) (a : AggregationCfg) (fnTok iv wv cv dv : TokV)
    (hfn : isFn fnTok.Token = true) (hfv : Lib.sliceTo fnTok.Value (Lib.len fnTok.Value - 1) = a.Function)
    (hre : a.Regex ≠ []) (hsub : a.Substr = [])
    (hiv : iv.Token = Token.num) (hwv : wv.Token = Token.num)
    (hia : E.strconv_Atoi (E.strings_TrimSpace iv.Value) = (a.Interval, none))
    (hwa : E.strconv_Atoi (E.strings_TrimSpace wv.Value) = (a.Wait, none))
    (hcv : cv.Token = Token.optTrue ∨ cv.Token = Token.optFalse) (hdv : dv.Token = Token.optTrue ∨ dv.Token = Token.optFalse)
    (hcb : E.strconv_ParseBool cv.Value = (a.Cache, none)) (hdb : E.strconv_ParseBool dv.Value = (a.DropRaw, none)) :
    (readAddAgg E ⟨cmdTokens fnTok a iv wv cv dv⟩ table).1 = (InitAggregation E table ⟨[a], [], []⟩).1 ∧
    (((readAddAgg E ⟨cmdTokens fnTok a iv wv cv dv⟩ table).2.1 = none) ↔ ((InitAggregation E table ⟨[a], [], []⟩).2 = none)) := by
  rw [CodeReadAgg.readAddAgg_eq, CodeCfg.initAggregation_eq]
  have hsub' : (if Lib.len a.Sub > 0 then a.Sub else a.Substr) = a.Sub := by
    cases hs : a.Sub with
    | nil => simp [Lib.len, hsub]
    | cons _ _ => simp [Lib.len]
  have hloop2 : optLoop2 E ⟨Token.optCache, []⟩ [cv, ⟨Token.optDropRaw, []⟩, dv] true false = .ok (a.Cache, a.DropRaw, ⟨[]⟩) := by
    rw [optLoop2]; simp [hcv, hcb]
    rw [optLoop2]; simp [hdv, hdb]
  have hrne : (a.Regex == []) = false := beq_false_of_ne hre
  have hnw : (Token.optPrefix == Token.word) = false := by decide
  simp only [readAddAggSpec, cmdTokens, Scanner.Next, hfn, hfv, hnw, Bool.false_eq_true, if_false]
  -- the six filter options give exactly the section's fields
  have hopts : optLoop1 ⟨.optPrefix, []⟩ [⟨.word, a.Prefix⟩, ⟨.optNotPrefix, []⟩, ⟨.word, a.NotPrefix⟩, ⟨.optSub, []⟩, ⟨.word, a.Sub⟩,
      ⟨.optNotSub, []⟩, ⟨.word, a.NotSub⟩, ⟨.optRegex, []⟩, ⟨.word, a.Regex⟩, ⟨.optNotRegex, []⟩, ⟨.word, a.NotRegex⟩,
      ⟨.word, a.Format⟩, iv, wv, ⟨.optCache, []⟩, cv, ⟨.optDropRaw, []⟩, dv] {} =
      .ok ({ prefix_ := a.Prefix, notPrefix := a.NotPrefix, sub := a.Sub, notSub := a.NotSub, regex := a.Regex, notRegex := a.NotRegex },
        ⟨.word, a.Format⟩, ⟨[iv, wv, ⟨.optCache, []⟩, cv, ⟨.optDropRaw, []⟩, dv]⟩) := by
    simpa [CodeReadAgg.setPairs, mSet] using CodeReadAgg.optLoop1_pairs
      [(⟨.optNotPrefix, []⟩, ⟨.word, a.NotPrefix⟩), (⟨.optSub, []⟩, ⟨.word, a.Sub⟩), (⟨.optNotSub, []⟩, ⟨.word, a.NotSub⟩),
       (⟨.optRegex, []⟩, ⟨.word, a.Regex⟩), (⟨.optNotRegex, []⟩, ⟨.word, a.NotRegex⟩)]
      ⟨.word, a.Format⟩ [iv, wv, ⟨.optCache, []⟩, cv, ⟨.optDropRaw, []⟩, dv] (Or.inr rfl)
      ⟨.optPrefix, []⟩ ⟨.word, a.Prefix⟩ {} (by simp [CodeReadAgg.PairOK, mSet]) (by simp [CodeReadAgg.PairOK, mSet])
  simp only [hopts, finishAgg, hrne, Scanner.Next, hiv, hwv, hia, hwa, hloop2, bne_self_eq_false, Bool.false_eq_true, if_false]
  simp only [CodeCfg.initResult, tryEach, CodeCfg.aggOne, hsub']
  rcases hM : E.matcher_New a.Prefix a.NotPrefix a.Sub a.NotSub a.Regex a.NotRegex with ⟨mm, me⟩
  cases me with
  | some e => simp
  | none =>
    simp only []   -- reduces the match on `(mm, none)`
    rcases hG : E.aggregator_New a.Function mm a.Format a.Cache a.Interval a.Wait a.DropRaw () with ⟨agg, ae⟩
    cases ae <;> simp

/-- **readAddBlack (regenerated)**: `addBlack <method> <pattern>` sets exactly the option the method names -/
theorem readAddBlack_eq (E : Env) (table : TableI) (method pat : Bytes) (rest : List TokV) :
    (readAddBlack E ⟨⟨Token.word, method⟩ :: ⟨Token.word, pat⟩ :: rest⟩ table) =
      match Crng.Tie.CodeCfg.blackArgs method pat with
      | none => ([], errFmtAddBlack, ⟨⟨Token.word, pat⟩ :: rest⟩)
      | some (a, b, c, d, e, f) =>
        match E.matcher_New a b c d e f with
        | (_, some err) => ([], some err, ⟨rest⟩)
        | (m, none) => ([Ev.call "table.AddBlacklist" table.id [arg m]], none, ⟨rest⟩) := by
  refine (CodeCfg.blackArgs_switch (fun a b c d e f =>
    if Lib.notNil (E.matcher_New a b c d e f).2 = true then Res.pure ((E.matcher_New a b c d e f).2, (⟨rest⟩ : Scanner))
    else emit (Ev.call "table.AddBlacklist" table.id [arg (E.matcher_New a b c d e f).1]) (Res.pure (none, ⟨rest⟩)))
    (Res.pure (errFmtAddBlack, ⟨⟨Token.word, pat⟩ :: rest⟩)) method pat).trans ?_
  rcases CodeCfg.blackArgs method pat with _ | ⟨a, b, c, d, e, f⟩
  · rfl
  · dsimp only
    rcases E.matcher_New a b c d e f with ⟨m, _ | e⟩ <;> rfl

/-- **C20, blacklist: `addBlack <method> <pattern>` and the TOML entry `"<method> <pattern>"` add the same matcher** (the TOML
string is cut at its first blank: `strings.SplitN`) -/
theorem black_cmd_toml_agree (E : Env) (table : TableI) (method pat : Bytes) (hm : ¬ method.contains 32) :
    (readAddBlack E ⟨[⟨Token.word, method⟩, ⟨Token.word, pat⟩]⟩ table).1 = (InitBlacklist E table ⟨[], [method ++ 32 :: pat], []⟩).1 := by
  rw [readAddBlack_eq, CodeCfg.initBlacklist_eq]
  have hl : ¬ (Lib.len [method, pat] < 2) := by simp [Lib.len]
  simp only [CodeCfg.initResult, tryEach, CodeCfg.blackOne, Lib.strings_SplitN_cut method pat 32 2 hm, hl, if_false,
    Lib.idx_zero, Lib.idx_one]
  rcases CodeCfg.blackArgs method pat with _ | ⟨a, b, c, d, e, f⟩
  · simp
  · rcases hmn : E.matcher_New a b c d e f with ⟨m, me⟩
    cases me <;> simp [hmn]

/-- **C20, rewriters: `addRewriter <old> <new> <max>` and a `[[rewriter]]` section without `not` add the same rule**
(`readAddRewriter` has no loop and is unfolded here) -/
theorem rewriter_cmd_toml_agree (E : Env) (table : TableI) (old new : Bytes) (mx : TokV) (max : Int)
    (hmt : mx.Token = Token.num ∨ mx.Token = Token.word) (hma : E.strconv_Atoi (E.strings_TrimSpace mx.Value) = (max, none)) :
    (readAddRewriter E ⟨[⟨Token.word, old⟩, ⟨Token.word, new⟩, mx]⟩ table).1 = (InitRewrite E table ⟨[], [], [⟨old, new, [], max⟩]⟩).1 := by
  rw [CodeCfg.initRewrite_eq]
  have hm2 : ((mx.Token != Token.num) && (mx.Token != Token.word)) = false := by
    rcases hmt with h | h <;> simp [h]
  rcases hr : E.rewriter_New old new [] max with ⟨rw, re⟩
  unfold readAddRewriter
  simp only [Scanner.Next, bne_self_eq_false, hm2, Bool.false_eq_true, if_false, hma, hr, Lib.notNil, Option.isSome_none]
  simp only [CodeCfg.initResult, tryEach, CodeCfg.rwOne, hr]
  cases re <;> simp [Res.pure, emit]

/-! ### readRouteOpts: the filter options of `addRoute … <key> [option…]` and `modRoute` -/
theorem body3_eq (st : T3) : readRouteOpts_body1 st = tupleStep3 st := by
  rcases st with ⟨err, notPrefix, notRegex, notSub, prefix_, regex, s, sub⟩
  simp only [readRouteOpts_body1, tupleStep3, step3]
  rcases s.Next with ⟨⟨tok, tv⟩, s1⟩
  rcases s1.Next with ⟨⟨vtok, vv⟩, s2⟩
  cases tok
  case optPrefix | optNotPrefix | optSub | optNotSub | optRegex | optNotRegex =>
    by_cases hv : vtok = Token.word <;> simp [mSet, M6.toT3, M6.result, toki_EOF, toki_Error, badMsg, hv]
  all_goals rfl

theorem step3_toT3 (m : M6) (e : Err) (s : Scanner) :
    tupleStep3 (m.toT3 e s) = stepMap (fun (x : M6 × Err × Scanner) => x.1.toT3 x.2.1 x.2.2) (step3 m e s) := rfl

theorem loop3_eq : ∀ (toks : List TokV) (m : M6) (fuel : Nat), toks.length + 1 ≤ fuel →
    whileP fuel readRouteOpts_cond1 tupleStep3 (m.toT3 none ⟨toks⟩) = Out.ret (routeOpts toks m) := by
  intro toks m fuel
  induction fuel generalizing toks m with
  | zero => intro hf; omega
  | succ f1 ih =>
    intro hf
    have hc : readRouteOpts_cond1 (m.toT3 none ⟨toks⟩) = true := rfl
    -- one turn (`step3`) against one unfolding of `routeOpts`, case by case
    rw [routeOpts.eq_def]
    simp only [whileP, hc, if_true, step3_toT3]
    rcases toks with _ | ⟨t, r⟩
    · simp [step3, Scanner.Next]
    by_cases hend : t.Token = Token.EOF ∨ t.Token = Token.sep
    · simp [step3, Scanner.Next, hend]
    by_cases herr : t.Token = Token.Error
    · simp [step3, Scanner.Next, herr]
    cases hk : mSet t.Token with
    | none => simp [step3, Scanner.Next, hend, herr, hk]
    | some f =>
    rcases r with _ | ⟨v, r2⟩
    · simp [step3, Scanner.Next, hend, herr, hk]
    by_cases hv : v.Token = Token.word
    · simp [step3, Scanner.Next, hend, herr, hk, hv, ih r2 (f v.Value m) (by simp at hf ⊢; omega)]
    · simp [step3, Scanner.Next, hend, herr, hk, hv]

/-- the state the generated loop of `readRouteOpts` starts in: no option set, no error -/
theorem toT3_default (s : Scanner) :
    ((default : Err), (default : Bytes), (default : Bytes), (default : Bytes), (default : Bytes), (default : Bytes), s, (default : Bytes)) =
      ({} : M6).toT3 none s := rfl

/-- **readRouteOpts (regenerated) = `routeOpts`**, for every token list -/
theorem readRouteOpts_eq (toks : List TokV) : readRouteOpts ⟨toks⟩ = routeOpts toks {} := by
  unfold readRouteOpts
  simp only []   -- zeta-reduces the `let`s of the generated function (the `rw`s need it)
  rw [show readRouteOpts_body1 = tupleStep3 from funext body3_eq]
  rw [toT3_default, loop3_eq toks {} (toks.length + 2) (by omega)]

end Crng.Tie.CodeAgree
