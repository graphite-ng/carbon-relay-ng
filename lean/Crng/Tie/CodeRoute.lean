import Crng.Gen.CodeRoute
import Crng.CodeSpec
/-! Obligations of the regenerated *code* layer, route/route.go: `SendAllMatch.Dispatch` hands the line to exactly the
destinations whose filter accepts the metric name, each once, in configured order; `SendFirstMatch.Dispatch` to the first
of them only; the filter sees the name (text before the first space), not the line. -/
namespace Crng.Tie.CodeRoute
open Crng.Code Crng.Gen.Code Crng.CodeSpec

def sendEv (buf : Bytes) (d : DestI) : Ev := Ev.call "dest.In<-" d.id [arg buf]

theorem forRange_sendAll {ρ : Type} (name buf : Bytes) (ds : List DestI) :
    forRange (ρ := ρ) (fun (d : DestI) (_ : Unit) =>
        if d.Match name = true then emit (Ev.call "dest.In<-" d.id [arg buf]) (Res.pure (Step.next ())) else Res.pure (Step.next ())) ds () =
      ((ds.filter (·.Match name)).map (sendEv buf), Out.done ()) := by
  -- every turn goes on; a turn's trace is the hand-off when the filter accepts, nothing otherwise
  rw [forRange_all _ (fun d => if d.Match name then [sendEv buf d] else []) (fun d => by cases d.Match name <;> rfl)]
  congr 1
  induction ds with
  | nil => rfl
  | cons d ds ih => cases h : d.Match name <;> simp [List.flatMap_cons, h, ih]

theorem forRange_sendFirst {ρ : Type} (name buf : Bytes) (ds : List DestI) :
    forRange (ρ := ρ) (fun (d : DestI) (_ : Unit) =>
        if d.Match name = true then emit (Ev.call "dest.In<-" d.id [arg buf]) (Res.pure (Step.brk ())) else Res.pure (Step.next ())) ds () =
      (((ds.filter (·.Match name)).take 1).map (sendEv buf), Out.done ()) := by
  induction ds with
  | nil => rfl
  | cons d ds ih =>
    cases h : d.Match name
    · rw [forRange_cons_next (by simp only [h]; rfl), ih]; simp [h]
    · rw [forRange_cons_brk (by simp only [h]; rfl)]; simp [h, Res.pure, sendEv]

/-- **metricName (regenerated)**: the text before the first space, the whole buffer when there is none -/
theorem metricName_eq (buf : Bytes) : metricName buf = buf.takeWhile (· != 32) := by
  unfold metricName
  simp only [decide_eq_true_eq]
  exact Lib.cut_at_byte buf 32

/-- **SendAllMatch.Dispatch (regenerated)** -/
theorem sendAll_trace (r : SendAllMatch) (buf : Bytes) :
    (r.Dispatch buf).1 = (r.config.Dests.filter (·.Match (metricName buf))).map (sendEv buf) := by
  unfold SendAllMatch.Dispatch
  simp only [forRange_sendAll]
  rw [Res.bind_fst]; exact List.append_nil _

/-- **SendFirstMatch.Dispatch (regenerated)** -/
theorem sendFirst_trace (r : SendFirstMatch) (buf : Bytes) :
    (r.Dispatch buf).1 = ((r.config.Dests.filter (·.Match (metricName buf))).take 1).map (sendEv buf) := by
  unfold SendFirstMatch.Dispatch
  simp only [forRange_sendFirst]
  rw [Res.bind_fst]; exact List.append_nil _

end Crng.Tie.CodeRoute
