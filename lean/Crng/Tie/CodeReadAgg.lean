import Crng.Gen.CodeReadAgg
import Crng.CodeSpecAgg
/-! Obligations of the regenerated *code* layer, imperatives/imperatives.go `readAddAgg` (the command side of C20 for
aggregations): the function translated from /repo on this run — function token, optional bare regex, the six filter options
in any order, format / interval / wait, `cache=` / `dropRaw=` with their defaults, `matcher.New`, `aggregator.New`,
`table.AddAggregator` — equals the closed form `Crng.CodeSpecAgg.readAddAggSpec` for every token list. The two token loops are
named definitions (`readAddAgg_cond1/body1`, `…2`) proved equal to table-driven steps; the loops are then
recursions over the tokens (`optLoop1`, `optLoop2`), never running out of fuel. -/
namespace Crng.Tie.CodeReadAgg
open Crng.Code Crng.Gen.Code Crng.CodeSpecAgg

theorem body1_eq (E : Env) (st : T1) : readAddAgg_body1 E st = Res.pure (tupleStep1 st) := by
  rcases st with ⟨notPrefix, notRegex, notSub, prefix_, regex, s, sub, ⟨tok, tv⟩⟩
  simp only [readAddAgg_body1, tupleStep1, step1]
  rcases s.Next with ⟨⟨vtok, vv⟩, s1⟩
  rcases s1.Next with ⟨t', s2⟩
  cases tok
  case optPrefix | optNotPrefix | optSub | optNotSub | optRegex | optNotRegex =>
    by_cases hv : vtok = Token.word <;> simp [mSet, M6.toTuple, Res.pure, hv]
  all_goals rfl

theorem body2_eq (E : Env) (st : T2) : readAddAgg_body2 E st = Res.pure (tupleStep2 E st) := by
  rcases st with ⟨cache, dropRaw, err, s, ⟨tok, tv⟩⟩
  simp only [readAddAgg_body2, tupleStep2]
  rcases s.Next with ⟨⟨vtok, vv⟩, s1⟩
  rcases s1.Next with ⟨t', s2⟩
  cases tok
  case optCache | optDropRaw =>
    rcases hb : E.strconv_ParseBool vv with ⟨b, _ | e⟩ <;>
      by_cases hv : vtok = Token.optTrue ∨ vtok = Token.optFalse <;> simp [Res.pure, Lib.notNil, hb, hv]
  all_goals rfl

theorem cond1_toTuple (m : M6) (s : Scanner) (t : TokV) :
    tupleCond1 (m.toTuple s t) = ((t.Token != toki_EOF) && (t.Token != Token.word)) := rfl
theorem step1_toTuple (m : M6) (s : Scanner) (t : TokV) :
    tupleStep1 (m.toTuple s t) = stepMap (fun (x : M6 × Scanner × TokV) => x.1.toTuple x.2.1 x.2.2) (step1 m s t) := rfl

/-- the first loop (filter options) with `toks.length + 2` turns of fuel is `optLoop1` -/
theorem whileP_optLoop1 : ∀ (toks : List TokV) (m : M6) (t : TokV) (fuel : Nat), toks.length + 2 ≤ fuel →
    whileP fuel tupleCond1 tupleStep1 (m.toTuple ⟨toks⟩ t) =
      match optLoop1 t toks m with
      | .error r => Out.ret r
      | .ok (m', t', s') => Out.done (m'.toTuple s' t') := by
  intro toks m t fuel
  induction fuel generalizing toks m t with
  | zero => intro hf; omega
  | succ f1 ih =>
    -- one turn (`step1`) against one unfolding of `optLoop1`, case by case
    intro hf
    rw [optLoop1]
    by_cases hend : t.Token = Token.EOF ∨ t.Token = Token.word
    · have hc : tupleCond1 (m.toTuple ⟨toks⟩ t) = false := by
        rcases hend with h | h <;> simp [cond1_toTuple, h, toki_EOF]
      simp [whileP_done hc, hend]
    have hc : tupleCond1 (m.toTuple ⟨toks⟩ t) = true := by simpa [cond1_toTuple, toki_EOF, not_or] using hend
    simp only [whileP, hc, if_true, step1_toTuple, hend, if_false]
    cases hk : mSet t.Token with
    | none => simp [step1, hk]
    | some f =>
    rcases toks with _ | ⟨v, r⟩
    · simp [step1, hk, Scanner.Next]
    by_cases hv : v.Token = Token.word
    case neg => simp [step1, hk, Scanner.Next, hv]
    rcases r with _ | ⟨t', r'⟩
    · simp [step1, hk, Scanner.Next, hv, whileP_done, cond1_toTuple, toki_EOF]
    · simp [step1, hk, Scanner.Next, hv, ih r' (f v.Value m) t' (by simp at hf ⊢; omega)]

/-- `whileP_optLoop1` under the name and with the (unused) length bound `n` that the C20 check lists -/
theorem loop1_eq : ∀ (n : Nat) (toks : List TokV) (m : M6) (t : TokV) (fuel : Nat),
    toks.length ≤ n → toks.length + 2 ≤ fuel →
    whileP fuel tupleCond1 tupleStep1 (m.toTuple ⟨toks⟩ t) =
      match optLoop1 t toks m with
      | .error r => Out.ret r
      | .ok (m', t', s') => Out.done (m'.toTuple s' t') :=
  fun _ toks m t fuel _ => whileP_optLoop1 toks m t fuel

/-- the second loop (`cache=` / `dropRaw=`) with `toks.length + 2` turns of fuel is `optLoop2` -/
theorem whileP_optLoop2 (E : Env) : ∀ (toks : List TokV) (cache dropRaw : Bool) (err : Err) (t : TokV) (fuel : Nat),
    toks.length + 2 ≤ fuel →
    ∃ e' t', whileP fuel tupleCond2 (tupleStep2 E) (cache, dropRaw, err, ⟨toks⟩, t) =
      match optLoop2 E t toks cache dropRaw with
      | .error r => Out.ret r
      | .ok (c', d', s') => Out.done (c', d', e', s', t') := by
  intro toks cache dropRaw err t fuel
  induction fuel generalizing toks cache dropRaw err t with
  | zero => intro hf; omega
  | succ f1 ih =>
    -- one turn (`tupleStep2`) against one unfolding of `optLoop2`, case by case; `e'`, `t'`: slots the code after the loop ignores
    intro hf
    rw [optLoop2.eq_def]
    by_cases hend : t.Token = Token.EOF
    · exact ⟨err, t, by simp [whileP, tupleCond2, hend, toki_EOF]⟩
    have hc : tupleCond2 (cache, dropRaw, err, ⟨toks⟩, t) = true := by simp [tupleCond2, toki_EOF, hend]
    simp only [whileP, hc, if_true, hend, if_false]
    by_cases hopt : t.Token = Token.optCache ∨ t.Token = Token.optDropRaw
    case neg => exact ⟨err, t, by simp [tupleStep2, hopt]⟩
    cases toks with
    | nil => exact ⟨err, t, by simp [tupleStep2, hopt, Scanner.Next]⟩
    | cons v r =>
      by_cases hv : v.Token = Token.optTrue ∨ v.Token = Token.optFalse
      case neg => exact ⟨err, t, by simp [tupleStep2, hopt, Scanner.Next, hv]⟩
      rcases hb : E.strconv_ParseBool v.Value with ⟨b, _ | e⟩
      case some => exact ⟨err, t, by simp [tupleStep2, hopt, Scanner.Next, hv, hb]⟩
      have hstep : tupleStep2 E (cache, dropRaw, err, ⟨v :: r⟩, t) =
          .next (if t.Token = Token.optCache then b else cache, if t.Token = Token.optCache then dropRaw else b, none,
            (Scanner.mk r).Next.2, (Scanner.mk r).Next.1) := by
        simp only [tupleStep2, hopt, Scanner.Next, hv, hb, if_true]; split <;> rfl
      simp only [hopt, hv, hb, if_true, hstep]
      cases r with
      | nil => exact ⟨none, ⟨Token.EOF, []⟩, by simp [Scanner.Next, whileP_done, tupleCond2, toki_EOF]⟩
      | cons t' r' =>
        obtain ⟨e', t'', h⟩ := ih r' (if t.Token = Token.optCache then b else cache) (if t.Token = Token.optCache then dropRaw else b)
          none t' (by simp at hf ⊢; omega)
        exact ⟨e', t'', by simp [Scanner.Next, h]⟩

/-- `whileP_optLoop2`, as `loop1_eq` -/
theorem loop2_eq (E : Env) : ∀ (n : Nat) (toks : List TokV) (cache dropRaw : Bool) (err : Err) (t : TokV) (fuel : Nat),
    toks.length ≤ n → toks.length + 2 ≤ fuel →
    ∃ e' t', whileP fuel tupleCond2 (tupleStep2 E) (cache, dropRaw, err, ⟨toks⟩, t) =
      match optLoop2 E t toks cache dropRaw with
      | .error r => Out.ret r
      | .ok (c', d', s') => Out.done (c', d', e', s', t') :=
  fun _ toks cache dropRaw err t fuel _ => whileP_optLoop2 E toks cache dropRaw err t fuel

/-- one conversion stage of generated code (`notNil` on the error, then on with the projections), against anything that is
decided by the pair the call returns -/
theorem conv_stage {α β : Type} (r : β × Err) {x b y : α}
    (hbad : ∀ a e, r = (a, some e) → x = y) (hgood : ∀ a, r = (a, none) → b = y) :
    (if Lib.notNil r.2 = true then x else b) = y := by
  rcases r with ⟨a, _ | e⟩
  · exact hgood a rfl
  · exact hbad a e rfl

/-- the test on the function token at the top of `readAddAgg` -/
theorem isFn_eq (t : Token) : (t != sumFn && t != avgFn && t != minFn && t != maxFn && t != lastFn &&
        t != deltaFn && t != countFn && t != deriveFn && t != stdevFn) = !isFn t := by
  simp only [isFn, bne, Bool.not_or]

theorem readAddAgg_eq (E : Env) (toks : List TokV) (table : TableI) :
    readAddAgg E ⟨toks⟩ table = readAddAggSpec E toks table := by
  unfold readAddAgg readAddAggSpec
  simp only [whileR_pure (readAddAgg_cond1 E) tupleCond1 _ _ (fun _ => rfl) (body1_eq E),
    whileR_pure (readAddAgg_cond2 E) tupleCond2 _ _ (fun _ => rfl) (body2_eq E), Res.bind_pure, isFn_eq]
  rcases (Scanner.mk toks).Next with ⟨f, s0⟩
  rcases s0.Next with ⟨t1, s1⟩
  rcases s1.Next with ⟨t2, s2⟩
  simp only []   -- reduces the matches on the three pairs just named
  cases hfn : isFn f.Token
  · rfl
  · simp only [Bool.not_true, Bool.false_eq_true, Bool.true_eq_false, if_false]
    -- old syntax or new: either way the first loop starts from some `m0.toTuple sI tI`
    simp only [apply_ite Prod.fst, apply_ite Prod.snd]
    generalize (if (t1.Token == word) = true then s2 else s1) = sI
    generalize (if (t1.Token == word) = true then t2 else t1) = tI
    have hI : (([] : Bytes), ([] : Bytes), ([] : Bytes), ([] : Bytes), (if (t1.Token == word) = true then t1.Value else []), sI, ([] : Bytes), tI) =
        (if (t1.Token == word) = true then ({ regex := t1.Value } : M6) else {}).toTuple sI tI := by split <;> rfl
    rw [hI]
    generalize (if (t1.Token == word) = true then ({ regex := t1.Value } : M6) else {}) = m0
    obtain ⟨tk⟩ := sI
    rw [whileP_optLoop1 tk m0 tI _ (Nat.le_refl _)]
    rcases optLoop1 tI tk m0 with r | ⟨m, t, s⟩
    · rfl
    · -- after the filter options both sides make the same tests in the same order: one step per test
      simp only [M6.toTuple, finishAgg]
      refine ite_congr (b := (m.regex == []) = true) rfl (fun _ => rfl) fun _ => ?_
      refine ite_congr (b := (t.Token != word) = true) rfl (fun _ => rfl) fun _ => ?_
      refine ite_congr (b := (s.Next.1.Token != num) = true) rfl (fun _ => rfl) fun _ => ?_
      -- (`simp only [h]`, not `rw`/`subst`: in the goal `simp only []` has left `E.strconv_Atoi …` as a bare projection of `E`)
      refine conv_stage (E.strconv_Atoi (E.strings_TrimSpace s.Next.1.Value)) (fun _ _ h => by simp only [h]; rfl) fun interval h => ?_
      simp only [h]
      refine ite_congr (b := (s.Next.2.Next.1.Token != num) = true) rfl (fun _ => rfl) fun _ => ?_
      refine conv_stage (E.strconv_Atoi (E.strings_TrimSpace s.Next.2.Next.1.Value)) (fun _ _ h => by simp only [h]; rfl) fun wait h => ?_
      simp only [h]
      -- the trailing options
      obtain ⟨t3, tk2, h3⟩ : ∃ t3 tk2, s.Next.2.Next.2.Next = (t3, ⟨tk2⟩) := ⟨_, _, rfl⟩
      obtain ⟨e', t', hl⟩ := whileP_optLoop2 E tk2 true false none t3 _ (Nat.le_refl _)
      simp only [h3, hl]
      rcases optLoop2 E t3 tk2 true false with ⟨e, s3⟩ | ⟨cache, dropRaw, s3⟩
      case error => rfl
      simp only []   -- reduces the match on `.ok (cache, dropRaw, s3)`
      -- `matcher.New`, then `aggregator.New`
      refine conv_stage (E.matcher_New m.prefix_ m.notPrefix m.sub m.notSub m.regex m.notRegex) (fun _ _ h => by simp only [h]; rfl) fun mm h => ?_
      simp only [h]
      exact conv_stage (E.aggregator_New (Lib.sliceTo f.Value (Lib.len f.Value - 1)) mm t.Value cache interval wait dropRaw ())
        (fun _ _ h => by simp only [show table.GetIn = () from rfl, h]; rfl) (fun agg h => by simp only [show table.GetIn = () from rfl, h]; rfl)

/-- the filter options of a list of `option value` pairs, applied in order -/
def setPairs : List (TokV × TokV) → M6 → M6
  | [], m => m
  | p :: ps, m => setPairs ps (((mSet p.1.Token).getD fun _ m => m) p.2.Value m)

/-- a filter option token followed by a word -/
def PairOK (p : TokV × TokV) : Prop := (mSet p.1.Token).isSome ∧ p.2.Token = Token.word

/-- one well-formed pair in front of a further token: the option is set, the loop goes on with that token -/
theorem optLoop1_pair (o v t : TokV) (r : List TokV) (m : M6) (h : PairOK (o, v)) :
    optLoop1 o (v :: t :: r) m = optLoop1 t r (setPairs [(o, v)] m) := by
  obtain ⟨f, hf⟩ : ∃ f, mSet o.Token = some f := Option.isSome_iff_exists.mp h.1
  have hv : v.Token = Token.word := h.2
  have hne : ¬(o.Token = Token.EOF ∨ o.Token = Token.word) := by rintro (h | h) <;> simp [h, mSet] at hf
  rw [optLoop1]; simp [hne, hf, hv, setPairs]

/-- **the filter-option loop on well-formed pairs `o₁ v₁ … oₙ vₙ` followed by a word or the end is the fold of `mSet` over the pairs** -/
theorem optLoop1_pairs (ps : List (TokV × TokV)) (t : TokV) (rest : List TokV) (ht : t.Token = Token.EOF ∨ t.Token = Token.word) :
    ∀ (o v : TokV) (m : M6), PairOK (o, v) → (∀ p ∈ ps, PairOK p) →
      optLoop1 o (v :: (ps.flatMap (fun p => [p.1, p.2]) ++ t :: rest)) m = .ok (setPairs ((o, v) :: ps) m, t, ⟨rest⟩) := by
  induction ps with
  | nil =>
    intro o v m hov _
    rw [List.flatMap_nil, List.nil_append, optLoop1_pair o v t rest m hov, optLoop1]
    simp [ht, setPairs]
  | cons p ps ih =>
    intro o v m hov h
    simp only [List.flatMap_cons, List.cons_append, List.nil_append]
    rw [optLoop1_pair o v p.1 _ m hov, ih p.1 p.2 _ (h p (List.mem_cons_self ..)) (fun q hq => h q (List.mem_cons_of_mem _ hq))]
    rfl

/-- C20, aggregations in the command syntax: the options may come in any order, each sets exactly its own field -/
theorem mSet_commute (a b : Token) (fa fb : Bytes → M6 → M6) (ha : mSet a = some fa) (hb : mSet b = some fb) (hab : a ≠ b)
    (x y : Bytes) (m : M6) : fa x (fb y m) = fb y (fa x m) := by
  -- by the arms of `mSet`: `a`, `b` are two of the six option tokens and `fa`, `fb` their setters, which write different fields
  unfold mSet at ha hb
  split at ha <;> split at hb <;> cases ha <;> cases hb <;> first | rfl | exact absurd rfl hab

/-- at the end of the input the trailing-option loop hands back what it was given -/
theorem optLoop2_EOF (E : Env) (v : Bytes) (toks : List TokV) (cache dropRaw : Bool) :
    optLoop2 E ⟨Token.EOF, v⟩ toks cache dropRaw = .ok (cache, dropRaw, ⟨toks⟩) := by
  rw [optLoop2.eq_def]; simp

/-- defaults of the trailing options: without `cache=` / `dropRaw=` the aggregation caches and does not drop (the loop
starts from `true false`, the literals of `finishAgg`) -/
theorem trailing_defaults (E : Env) : optLoop2 E ⟨Token.EOF, []⟩ [] true false = .ok (true, false, ⟨[]⟩) :=
  optLoop2_EOF E [] [] true false

end Crng.Tie.CodeReadAgg
