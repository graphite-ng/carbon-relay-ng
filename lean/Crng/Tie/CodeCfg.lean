import Crng.Gen.CodeCfg
import Crng.CodeSpec
/-! Obligations of the regenerated *code* layer, cfg/table.go (the TOML side of C20): `InitAggregation`, `InitBlacklist` and
`InitRewrite` as translated from /repo on this run hand each section's options to `matcher.New` / `aggregator.New` /
`rewriter.New` in the documented positions (`sub` wins over `substr`; a blacklist entry `"<method> <pattern>"` sets exactly
that one option), add the resulting objects to the table in file order, and stop at the first section that fails. -/
namespace Crng.Tie.CodeCfg
open Crng.Code Crng.Gen.Code Crng.CodeSpec

/-- the result of an `Init*` function from `tryEach` -/
def initResult (r : List Ev × Option Err) : Res Err := (r.1, match r.2 with | none => none | some e => e)

/-- the shape of the three `Init*` functions: a loop over the sections whose body, whatever the index, is `tryBody f ev`,
followed by "return the error the loop stopped with, or nil" -/
theorem init_eq {α β : Type} (f : α → Except Err β) (ev : β → Ev) (b : Int × α → Unit → Res (Step Unit Err))
    (h : ∀ i a s, b (i, a) s = tryBody f ev a s) (xs : List α) :
    (Res.bind (forRange b (Lib.enum xs) ()) fun
      | Out.ret r_ => Res.pure r_
      | Out.done () => Res.pure none) = initResult (tryEach f ev xs) := by
  rw [forRange_enum _ _ h, forRange_tryEach]
  simp only [initResult, Res.bind, Res.pure]
  cases (tryEach f ev xs).2 <;> simp

/-- what one `[[aggregation]]` section becomes: the arguments of `aggregator.New` -/
def aggOne (E : Env) (a : AggregationCfg) : Except Err AggArgs :=
  match E.matcher_New a.Prefix a.NotPrefix (if Lib.len a.Sub > 0 then a.Sub else a.Substr) a.NotSub a.Regex a.NotRegex with
  | (_, some _) => .error (some "Failed to instantiate matcher: %s")
  | (m, none) =>
    match E.aggregator_New a.Function m a.Format a.Cache a.Interval a.Wait a.DropRaw () with
    | (_, some _) => .error (some "could not add aggregation #%d")
    | (agg, none) => .ok agg

/-- **InitAggregation (regenerated)** -/
theorem initAggregation_eq (E : Env) (table : TableI) (config : Config) :
    InitAggregation E table config =
      initResult (tryEach (aggOne E) (fun agg => Ev.call "table.AddAggregator" table.id [arg agg]) config.Aggregation) := by
  refine init_eq (aggOne E) _ _ (fun i a s => ?_) _
  simp only [tryBody, aggOne, decide_eq_true_eq]
  rcases hm : E.matcher_New a.Prefix a.NotPrefix (if Lib.len a.Sub > 0 then a.Sub else a.Substr) a.NotSub a.Regex a.NotRegex with ⟨m, me⟩
  rcases ha : E.aggregator_New a.Function m a.Format a.Cache a.Interval a.Wait a.DropRaw () with ⟨ag, ae⟩
  cases me <;> cases ae <;> simp [hm, ha, Lib.notNil]

/-- what one `[[rewriter]]` section becomes: the rule `rewriter.New` makes of it -/
def rwOne (E : Env) (r : RewriterCfg) : Except Err RW :=
  match E.rewriter_New r.Old r.New r.Not r.Max with
  | (_, some _) => .error (some "could not add rewriter #%d")
  | (rw, none) => .ok rw

/-- **InitRewrite (regenerated)** -/
theorem initRewrite_eq (E : Env) (table : TableI) (config : Config) :
    InitRewrite E table config =
      initResult (tryEach (rwOne E) (fun rw => Ev.call "table.AddRewriter" table.id [arg rw]) config.Rewriter) := by
  refine init_eq (rwOne E) _ _ (fun i a s => ?_) _
  simp only [tryBody, rwOne]
  rcases hm : E.rewriter_New a.Old a.New a.Not a.Max with ⟨m, me⟩
  cases me <;> simp [hm, Lib.notNil]

/-- `"<method> <pattern>"`: the one option the method names is set to the pattern, the other five stay empty -/
def blackArgs (method pat : Bytes) : Option (Bytes × Bytes × Bytes × Bytes × Bytes × Bytes) :=
  if method == ([112, 114, 101, 102, 105, 120] : Bytes) /- "prefix" -/ then some (pat, [], [], [], [], [])
  else if method == ([110, 111, 116, 80, 114, 101, 102, 105, 120] : Bytes) /- "notPrefix" -/ then some ([], pat, [], [], [], [])
  else if method == ([115, 117, 98] : Bytes) /- "sub" -/ then some ([], [], pat, [], [], [])
  else if method == ([110, 111, 116, 83, 117, 98] : Bytes) /- "notSub" -/ then some ([], [], [], pat, [], [])
  else if method == ([114, 101, 103, 101, 120] : Bytes) /- "regex" -/ then some ([], [], [], [], pat, [])
  else if method == ([110, 111, 116, 82, 101, 103, 101, 120] : Bytes) /- "notRegex" -/ then some ([], [], [], [], [], pat)
  else none

theorem blackArgs_switch {α : Type} (k : Bytes → Bytes → Bytes → Bytes → Bytes → Bytes → α) (n : α) (method pat : Bytes) :
    (if method == ([112, 114, 101, 102, 105, 120] : Bytes) then k pat [] [] [] [] []
      else if method == ([110, 111, 116, 80, 114, 101, 102, 105, 120] : Bytes) then k [] pat [] [] [] []
      else if method == ([115, 117, 98] : Bytes) then k [] [] pat [] [] []
      else if method == ([110, 111, 116, 83, 117, 98] : Bytes) then k [] [] [] pat [] []
      else if method == ([114, 101, 103, 101, 120] : Bytes) then k [] [] [] [] pat []
      else if method == ([110, 111, 116, 82, 101, 103, 101, 120] : Bytes) then k [] [] [] [] [] pat
      else n) =
    match blackArgs method pat with
    | none => n
    | some (a, b, c, d, e, f) => k a b c d e f := by
  -- push the `match` through the if-chain of `blackArgs`
  unfold blackArgs
  simp only [apply_ite (fun o : Option (Bytes × Bytes × Bytes × Bytes × Bytes × Bytes) =>
    match o with | none => n | some (a, b, c, d, e, f) => k a b c d e f)]

/-- what one entry of the `blacklist` array becomes: what `matcher.New` makes of the one option its method names -/
def blackOne (E : Env) (entry : Bytes) : Except Err MatcherArgs :=
  let parts := Lib.strings_SplitN entry [32] 2
  if Lib.len parts < 2 then .error (some "invalid blacklist cmd #%d")
  else match blackArgs (Lib.idx parts 0) (Lib.idx parts 1) with
    | none => .error (some "invalid blacklist method for cmd #%d: %s")
    | some (a, b, c, d, e, f) =>
      match E.matcher_New a b c d e f with
      | (_, some _) => .error (some "could not apply blacklist cmd #%d")
      | (m, none) => .ok m

/-- **InitBlacklist (regenerated)** -/
theorem initBlacklist_eq (E : Env) (table : TableI) (config : Config) :
    InitBlacklist E table config =
      initResult (tryEach (blackOne E) (fun m => Ev.call "table.AddBlacklist" table.id [arg m]) config.BlackList) := by
  refine init_eq (blackOne E) _ _ (fun i entry s => ?_) _
  simp only [tryBody, blackOne]
  generalize Lib.strings_SplitN entry [32] 2 = parts
  by_cases hl : Lib.len parts < 2
  · simp [hl]
  simp only [hl, decide_false, Bool.false_eq_true, if_false]
  refine (blackArgs_switch (fun a b c d e f =>
    if Lib.notNil (E.matcher_New a b c d e f).2 = true then Res.pure (Step.ret (some "could not apply blacklist cmd #%d" : Err))
    else emit (Ev.call "table.AddBlacklist" table.id [arg (E.matcher_New a b c d e f).1]) (Res.pure (Step.next ())))
    (Res.pure (Step.ret (some "invalid blacklist method for cmd #%d: %s" : Err))) _ _).trans ?_
  rcases blackArgs (Lib.idx parts 0) (Lib.idx parts 1) with _ | ⟨a, b, c, d, e, f⟩
  · rfl
  · dsimp only
    rcases E.matcher_New a b c d e f with ⟨m, _ | e⟩ <;> rfl

/-- corollary (C20): a `[[aggregation]]` section that sets `sub` ignores `substr` -/
theorem agg_sub_wins (E : Env) (a : AggregationCfg) (h : a.Sub ≠ []) :
    aggOne E a = aggOne E { a with Substr := [] } := by
  simp [aggOne, Lib.len_pos_of_ne_nil h]

end Crng.Tie.CodeCfg
