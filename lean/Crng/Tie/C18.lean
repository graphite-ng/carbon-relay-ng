import Crng.Tie.Chars
import Crng.Gen.Skel
import Crng.Gen.TableOps
import Crng.Gen.InPlaceSites
import Crng.Gen.DispatchLoads
/-! regenerated obligations for C18: how table/ and route/ change a published slice (the idioms of `Crng/GoSlice.lean`), under which locks and
behind which guards; the dispatchers load the configuration once -/
namespace Crng.Tie.C18
open Crng.Tie

def idiomSafe (s : String) : Bool := s == "appendElem" || s == "deleteFull" || s == "fresh"

/-- every assignment to a published slice uses an idiom that is `safe` in the model (`deleteInPlace` and unclassified
right-hand sides are not) -/
theorem tableOps_safe : (Crng.Gen.tableOps.all fun r => idiomSafe r.2.2) = true := by decide

/-- … and all eleven mutator sites were found -/
theorem tableOps_complete : Crng.Gen.tableOps.map (·.1) =
    ["table.Table.AddAggregator", "table.Table.AddBlacklist", "table.Table.AddRewriter", "table.Table.AddRoute",
     "table.Table.DelAggregator", "table.Table.DelBlacklist", "table.Table.DelRewriter", "table.Table.DelRoute",
     "table.Table.Shutdown", "route.baseRoute.addDestination", "route.baseRoute.delDestination"] := rfl

def lockedTable (sk : List String) : Bool :=
  ["0 call table.Lock()", "0 defer table.Unlock()", "0 assign conf := table.config.Load().(TableConfig)"].isPrefixOf sk
def lockedRoute (sk : List String) : Bool :=
  ["0 call route.Lock()", "0 defer route.Unlock()", "0 assign conf := route.config.Load().(Config)"].isPrefixOf sk

/-- mutators are serialised: lock first, unlock deferred, then Load … Store -/
theorem mutators_locked :
    (lockedTable Crng.Gen.skel_table_Table_AddRoute && lockedTable Crng.Gen.skel_table_Table_AddBlacklist &&
     lockedTable Crng.Gen.skel_table_Table_AddAggregator && lockedTable Crng.Gen.skel_table_Table_AddRewriter &&
     lockedTable Crng.Gen.skel_table_Table_DelAggregator && lockedTable Crng.Gen.skel_table_Table_DelBlacklist &&
     lockedTable Crng.Gen.skel_table_Table_DelRewriter && lockedTable Crng.Gen.skel_table_Table_DelRoute &&
     lockedRoute Crng.Gen.skel_route_baseRoute_addDestination && lockedRoute Crng.Gen.skel_route_baseRoute_delDestination &&
     lockedRoute Crng.Gen.skel_route_baseRoute_update) = true := by decide +kernel

/-- the dispatchers load the configuration once and take no lock -/
theorem dispatch_loads_once :
    (Crng.Gen.TableDispatchLoads == 1 && Crng.Gen.TableDispatchLocks == 0 &&
     Crng.Gen.TableDispatchAggregateLoads == 1 && Crng.Gen.TableDispatchAggregateLocks == 0) = true := by decide

/-- index beyond the end is rejected before anything is changed; unknown route key is a no-op -/
theorem guards_ok :
    (isSubseq ["0 if index >= len(conf.blacklist)", "1 return fmt.Errorf(\"Invalid index %d\", index)", "0 call table.config.Store(conf)"] Crng.Gen.skel_table_Table_DelBlacklist &&
     isSubseq ["0 if id >= len(conf.rewriters)", "1 return fmt.Errorf(\"Invalid index %d\", id)", "0 call table.config.Store(conf)"] Crng.Gen.skel_table_Table_DelRewriter &&
     isSubseq ["0 if id >= len(conf.aggregators)", "1 return fmt.Errorf(\"Invalid index %d\", id)", "0 call table.config.Store(conf)"] Crng.Gen.skel_table_Table_DelAggregator &&
     isSubseq ["0 if index >= len(conf.Dests())", "1 return fmt.Errorf(\"Invalid index %d\", index)", "0 call route.config.Store(newConf)"] Crng.Gen.skel_route_baseRoute_delDestination &&
     isSubseq ["0 if toDelete == -1", "1 return nil", "0 call table.config.Store(conf)"] Crng.Gen.skel_table_Table_DelRoute) = true := by
  rw [isSubseq_chars chars! chars!, isSubseq_chars chars! chars!, isSubseq_chars chars! chars!,
    isSubseq_chars chars! chars!, isSubseq_chars chars! chars!]
  decide +kernel

/-- a destination's filter is read and swapped under its own mutex -/
theorem dest_match_locked : Crng.Gen.skel_destination_Destination_Match =
    ["0 call dest.lockMatcher.Lock()", "0 defer dest.lockMatcher.Unlock()", "0 return dest.Matcher.Match(s)"] := rfl

/-- nowhere in table/ or route/ is the backing array of an existing slice re-used (`x[:0]`, `append(x[:i], …)` without a
capacity bound) — except the two worker-local batch buffers, which no dispatcher can hold. This covers slices the published
configs reach indirectly too (the consistent-hashing ring), whatever function touches them. -/
theorem no_inplace_reuse : Crng.Gen.inPlaceSites =
    ["route.GrafanaNet.retryFlush reslice0 metrics[:0]", "route.KafkaMdm.run reslice0 metrics[:0]"] := rfl

end Crng.Tie.C18
