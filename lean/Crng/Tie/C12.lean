import Crng.Tie.Chars
import Crng.Gen.Skel
/-! regenerated obligations for C12: the readers of input/ (plain TCP, UDP, AMQP, the read-timeout wrapper) that `Crng/Framing.lean` and
`Crng/ReadLine.lean` model -/
namespace Crng.Tie.C12
open Crng.Tie

/-- a default `bufio.Scanner` (no Buffer/Split call), one Dispatch of `scanner.Bytes()` per `Scan()`, the scanner's error returned -/
theorem plain_ok : Crng.Gen.skel_input_Plain_Handle =
    ["0 assign scanner := bufio.NewScanner(c)", "0 for ; scanner.Scan(); ", "1 assign buf := scanner.Bytes()",
     "1 call p.dispatcher.Dispatch(buf)", "0 return scanner.Err()"] := rfl

/-- every UDP datagram is its own stream -/
theorem udp_ok :
    (isSubseq ["0 assign buffer := make([]byte, 65535)", "1 assign b, src, err := l.udpConn.ReadFrom(buffer)", "1 call l.HandleData(l, buffer[:b], src)"] Crng.Gen.skel_input_Listener_consumeUdp &&
     isSubseq ["0 assign err := l.Handler.Handle(bytes.NewReader(data))"] Crng.Gen.skel_input_handleData) = true := by
  rw [isSubseq_chars chars! chars!, isSubseq_chars chars! chars!]
  decide +kernel

/-- AMQP: a 4096-byte reader per body, ReadLine until the first error, isPrefix ignored -/
theorem amqp_ok : isSubseq
    ["2 case m := <-a.delivery", "3 assign r := bufio.NewReaderSize(bytes.NewReader(m.Body), 4096)", "3 for ; ; ",
     "4 assign buf, _, err := r.ReadLine()", "4 if err != nil", "5 branch break", "4 call a.dispatcher.Dispatch(buf)"]
    Crng.Gen.skel_input_Amqp_consumeAMQP = true := by
  rw [isSubseq_chars chars! chars!]; decide +kernel

/-- the read-timeout wrapper sets the deadline and delegates exactly one Read -/
theorem timeoutConn_ok : Crng.Gen.skel_input_TimeoutConn_Read =
    ["0 if t.readTimeout > 0", "1 assign err = t.Conn.SetReadDeadline(time.Now().Add(t.readTimeout))", "1 if err != nil", "2 return 0, err",
     "0 return t.Conn.Read(p)"] := rfl

/-- one handler call per TCP connection, the connection closed afterwards -/
theorem tcp_ok : isSubseq ["0 call l.HandleConn(l, NewTimeoutConn(c, l.readTimeout))", "0 call c.Close()"]
    Crng.Gen.skel_input_Listener_acceptTcpConn = true := by
  rw [isSubseq_chars chars! chars!]; decide +kernel

end Crng.Tie.C12
