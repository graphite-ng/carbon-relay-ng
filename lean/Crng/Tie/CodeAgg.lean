import Crng.Gen.CodeAgg
import Crng.CodeSpec
/-! Obligations of the regenerated *code* layer, aggregator/aggregator.go `AddMaybe`: the point enters the aggregator's
queue exactly when the cheap filter passes and, for a drop-raw aggregation, the (cached) regex stage confirms; the raw
metric is withheld (`true`) exactly when it entered a drop-raw aggregation — C11's "exactly those raw metrics the
aggregation consumes". -/
namespace Crng.Tie.CodeAgg
open Crng.Code Crng.Gen.Code Crng.CodeSpec

theorem addMaybe_eq (a : Aggregator) (buf : List Bytes) (val : F64) (ts : Int) :
    a.AddMaybe buf val ts =
      (if a.Matcher.PreMatch (Lib.idx buf 0) && (!a.DropRaw || (a.matchWithCache (Lib.idx buf 0)).2)
        then [Ev.call "a.in<-" a.id [arg (buf, val, ts)]] else [],
       a.Matcher.PreMatch (Lib.idx buf 0) && (!a.DropRaw || (a.matchWithCache (Lib.idx buf 0)).2) && a.DropRaw) := by
  unfold Aggregator.AddMaybe
  cases a.Matcher.PreMatch (Lib.idx buf 0)
  · rfl
  · cases a.DropRaw
    · rfl
    · rcases a.matchWithCache (Lib.idx buf 0) with ⟨_, _ | _⟩ <;> rfl

/-- withheld ⇒ consumed: `AddMaybe` never answers drop-raw for a point it did not enqueue -/
theorem withheld_consumed (a : Aggregator) (buf : List Bytes) (val : F64) (ts : Int) (h : (a.AddMaybe buf val ts).2 = true) :
    (a.AddMaybe buf val ts).1 = [Ev.call "a.in<-" a.id [arg (buf, val, ts)]] ∧ a.DropRaw = true := by
  rw [addMaybe_eq] at h ⊢
  obtain ⟨h1, h2⟩ := Bool.and_eq_true_iff.mp h
  exact ⟨if_pos h1, h2⟩

/-- without drop-raw nothing is ever withheld -/
theorem no_dropraw_never_withholds (a : Aggregator) (buf : List Bytes) (val : F64) (ts : Int) (h : a.DropRaw = false) :
    (a.AddMaybe buf val ts).2 = false := by
  rw [addMaybe_eq]; simp [h]

end Crng.Tie.CodeAgg
