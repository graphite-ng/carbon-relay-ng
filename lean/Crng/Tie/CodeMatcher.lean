import Crng.Gen.CodeMatcher
import Crng.Table
/-! Obligations of the regenerated *code* layer, matcher/matcher.go: `Matcher.Match` and `Matcher.PreMatch` as translated
from /repo's Go source on this run are proved equal, for every matcher value and every name, to the hand-written model
functions that `Crng.Props.C03` / `C01` / `C11` are about, and hence to the documented six-condition conjunction.
A semantic change of the Go functions makes an equality false: the proof stops checking, the check reports the
obligation and searches for a failing input with the matcher streams. -/
namespace Crng.Tie.CodeMatcher
open Crng.Code Crng.Gen.Code

def absRx (pre : Bytes) (r : RegexpI) : Crng.Tb.Rx := ⟨r.Match, pre⟩
/-- the model's matcher for a Go `Matcher` value -/
def absM (m : Matcher) : Crng.Tb.Matcher :=
  { prefix_ := m.prefix_, notPrefix := m.notPrefix, sub := m.sub, notSub := m.notSub,
    regex := m.regex.map (absRx m.prefixFromRegex), notRegex := m.notRegex.map (absRx m.prefixFromNotRegex) }

theorem hasPrefix_eq (s p : Bytes) : Lib.bytes_HasPrefix s p = Crng.Tb.hasPrefix s p := rfl
theorem contains_eq (s p : Bytes) : Lib.bytes_Contains s p = Crng.Tb.contains s p := rfl

/-- **matcher.Match (regenerated) = the model's `Matcher.match`** -/
theorem matcher_match_eq (m : Matcher) (s : Bytes) : m.Match s = (absM m).match s := by
  -- the two are the same chain of tests; they differ in how a regex that is not there is represented
  unfold Matcher.Match Crng.Tb.Matcher.match absM
  simp only [Lib.len_pos, Lib.len_zero]
  cases m.regex <;> cases m.notRegex <;> rfl

/-- **matcher.Match (regenerated) = the documented conjunction**, whenever the derived static prefixes are sound
(`Crng.Props.C03.soundPrefix_sound` is the theorem that `regexToPrefix` derives sound ones) -/
theorem matcher_match_spec (m : Matcher) (h : (absM m).PrefixOK) (s : Bytes) : m.Match s = (absM m).spec s := by
  rw [matcher_match_eq, Crng.Tb.match_eq_spec _ h]

/-- **matcher.PreMatch (regenerated) = the model's `preMatch`**; `matcher.New` leaves `prefixFromRegex` empty when no
regex is configured -/
theorem matcher_prematch_eq (m : Matcher) (s : Bytes) (h : m.regex = none → m.prefixFromRegex = []) :
    m.PreMatch s = (absM m).preMatch s := by
  unfold Matcher.PreMatch Crng.Tb.Matcher.preMatch absM
  simp only [Lib.len_pos]
  cases hr : m.regex with
  | none => rw [h hr]; rfl
  | some r => rfl

/-- a regexp object answers `FindSubmatchIndex` with non-nil exactly when `Match` is true (Go's regexp) -/
def RegexpI.Coherent (r : RegexpI) : Prop := ∀ s, (r.FindSubmatchIndex s).isSome = r.Match s

/-- **matcher.MatchRegexAndExpand (regenerated)** succeeds exactly when the regex matches and notRegex does not (the
model's `regexStage` with `useNot`), for a matcher that has a regex (`aggregator.New` rejects one without) -/
theorem matcher_regexStage_eq (m : Matcher) (r : RegexpI) (hr : m.regex = some r) (hc : RegexpI.Coherent r) (key t : Bytes) :
    (m.MatchRegexAndExpand key t).2 = (absM m).regexStage true key := by
  unfold Matcher.MatchRegexAndExpand Crng.Tb.Matcher.regexStage absM
  simp only [hr, apply_ite Prod.snd, Bool.if_false_left, Bool.decide_eq_true]
  have hf : (!Lib.isNil ((some r : Option RegexpI).FindSubmatchIndex key)) = r.Match key := by
    rw [← hc key]; show (!Lib.isNil (r.FindSubmatchIndex key)) = _
    cases r.FindSubmatchIndex key <;> rfl
  -- the code tests notRegex first, the model regex first
  rw [hf, Bool.and_true, Bool.and_comm]
  cases m.notRegex <;> rfl

example : (absM ⟨[97], [], [], [], none, none, [], []⟩).match [97, 98] = true := by decide
end Crng.Tie.CodeMatcher
