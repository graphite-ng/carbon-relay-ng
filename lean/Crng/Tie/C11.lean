import Crng.Tie.Chars
import Crng.Gen.Skel
/-! regenerated obligations for C11: aggregator output enters through `Table.In` → `DispatchAggregate`, which is the route loop only; `AddMaybe`
and the drop-raw return in `Dispatch`, as `Crng.Tb.aggLoop` has them -/
namespace Crng.Tie.C11
open Crng.Tie

/-- what arrives on `Table.In` (where aggregators write) is handed to `DispatchAggregate`, nothing else -/
theorem tableIn_ok : count "0 go func() { for buf := range t.In { t.DispatchAggregate(buf) } }()" Crng.Gen.skel_table_New = 1 := by
  rw [count_chars chars!]; decide +kernel

/-- `DispatchAggregate` consists of the route loop only: no validation, blacklist, rewriter, aggregator -/
theorem dispatchAggregate_ok : Crng.Gen.skel_table_Table_DispatchAggregate =
    ["0 assign conf := table.config.Load().(TableConfig)", "0 assign routed := false", "0 assign name := buf",
     "0 if pos := bytes.IndexByte(buf, ' '); pos >= 0", "1 assign name = buf[:pos]",
     "0 range _, route := range conf.routes", "1 if route.Match(name)", "2 assign routed = true", "2 call route.Dispatch(buf)",
     "0 if !routed", "1 call table.numUnroutable.Inc(1)"] := rfl

/-- `AddMaybe`: pre-match; for drop-raw the confirmed (regex) match comes before the hand-off; drop-raw is reported only
after the hand-off -/
theorem addMaybe_ok : Crng.Gen.skel_aggregator_Aggregator_AddMaybe =
    ["0 if !a.Matcher.PreMatch(buf[0])", "1 return false", "0 if a.DropRaw", "1 assign _, ok := a.matchWithCache(buf[0])",
     "1 if !ok", "2 return false", "0 send a.in <- msg{ buf, val, ts, }", "0 return a.DropRaw"] := rfl

/-- in `Dispatch` the aggregator loop returns on drop-raw before the route loop -/
theorem dropRaw_return_ok : isInfix
    ["0 range _, aggregator := range conf.aggregators", "1 assign dropRaw := aggregator.AddMaybe(fields, val, ts)", "1 if dropRaw", "2 return "]
    Crng.Gen.skel_table_Table_Dispatch = true := by
  rw [isInfix_chars chars! chars!]; decide +kernel

end Crng.Tie.C11
