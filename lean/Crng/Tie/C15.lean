import Crng.Tie.Chars
import Crng.Gen.Skel
/-! regenerated obligations for C15: route/consistent_hashing*.go as `Crng/CHash.lean` has it: 100 replicas, the replica key, the MD5 position, the
order, the bisect lookup; the ring rebuilt by every mutator of a hashing route; the key that `Dispatch` hashes -/
namespace Crng.Tie.C15
open Crng.Tie

theorem replicas_ok : Crng.Gen.skel_route_NewConsistentHasher = ["0 return NewConsistentHasherReplicaCount(destinations, 100)"] := rfl

/-- replica key `('host', 'inst'):n` / `('host', None):n`, host without the port -/
theorem key_ok : isSubseq
    ["0 for i := 0; i < h.replicaCount; i++", "1 assign server := strings.Split(d.Addr, \":\")", "1 call keyBuf.WriteString(\"('\")",
     "1 call keyBuf.WriteString(server[0])", "1 call keyBuf.WriteString(\"', \")", "1 if d.Instance != \"\"", "2 call keyBuf.WriteString(\"'\")",
     "2 call keyBuf.WriteString(d.Instance)", "2 call keyBuf.WriteString(\"'\")", "1 else ", "2 call keyBuf.WriteString(\"None\")",
     "1 call keyBuf.WriteString(\")\")", "1 call keyBuf.WriteString(\":\")", "1 call keyBuf.WriteString(strconv.Itoa(i))",
     "1 assign position := computeRingPosition(keyBuf.Bytes())", "1 assign newRingEntries[i].Position = position",
     "1 assign newRingEntries[i].Hostname = server[0]", "1 assign newRingEntries[i].Instance = d.Instance",
     "0 assign h.Ring = append(h.Ring, newRingEntries...)", "0 call sort.Sort(h.Ring)"]
    Crng.Gen.skel_route_ConsistentHasher_AddDestination = true := by
  rw [isSubseq_chars chars! chars!]; decide +kernel

theorem position_ok : Crng.Gen.skel_route_computeRingPosition =
    ["0 decl var Position uint16", "0 assign hash := md5.Sum(key)", "0 assign buf := bytes.NewReader(hash[0:2])",
     "0 call binary.Read(buf, binary.BigEndian, &Position)", "0 return Position"] := rfl

theorem less_ok : Crng.Gen.skel_route_hashRing_Less =
    ["0 return r[i].Position < r[j].Position || (r[i].Position == r[j].Position && r[i].Hostname < r[j].Hostname) || (r[i].Position == r[j].Position && r[i].Hostname == r[j].Hostname && r[i].Instance < r[j].Instance)"] := rfl

/-- bisect-left, wrap by modulo -/
theorem lookup_ok : Crng.Gen.skel_route_ConsistentHasher_GetDestinationIndex =
    ["0 assign position := computeRingPosition(key)",
     "0 assign index := sort.Search(len(h.Ring), func(i int) bool { return h.Ring[i].Position >= position }) % len(h.Ring)",
     "0 return h.Ring[index].DestinationIndex"] := rfl

/-- the hasher is rebuilt from the destination list by every mutator of a hashing route -/
theorem rebuilt_ok :
    (Crng.Gen.skel_route_consistentHashingConfigExtender == ["0 assign hasher := NewConsistentHasher(baseConfig.Dests())", "0 return consistentHashingConfig{baseConfig, &hasher}"] &&
     Crng.Gen.skel_route_ConsistentHashing_Add == ["0 call route.addDestination(dest, consistentHashingConfigExtender)"] &&
     isSubseq ["0 return route.delDestination(index, consistentHashingConfigExtender)"] Crng.Gen.skel_route_ConsistentHashing_DelDestination &&
     isSubseq ["0 assign hasher := NewConsistentHasher(destinations)"] Crng.Gen.skel_route_NewConsistentHashing) = true := by
  rw [beq_chars chars! chars!, beq_chars chars! chars!, isSubseq_chars chars! chars!, isSubseq_chars chars! chars!]
  decide +kernel

/-- the key is the text before the first space -/
theorem dispatch_ok : isSubseq
    ["0 if pos := bytes.IndexByte(buf, ' '); pos > 0", "1 assign name := buf[0:pos]",
     "1 assign dest := conf.Dests()[conf.Hasher.GetDestinationIndex(name)]", "1 send dest.In <- buf"]
    Crng.Gen.skel_route_ConsistentHashing_Dispatch = true := by
  rw [isSubseq_chars chars! chars!]; decide +kernel

end Crng.Tie.C15
