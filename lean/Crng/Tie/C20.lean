import Crng.Tie.Chars
import Crng.Gen.TokenTable
import Crng.Gen.DestDefaults
import Crng.Gen.Interp
import Crng.Tokens
/-! regenerated obligations for C20: the scanner's token table (`Crng/Tokens.lean`), the defaults at the top of `readDestination`, and the
interpolation arms (`Crng/Interp.lean`) -/
namespace Crng.Tie.C20
open Crng.Tie

/-- the scanner's token definitions, in order (first match wins), as imperatives.go has them today -/
theorem tokens_ok : Crng.Gen.tokenTable = [
  ("addBlack", "\"addBlack\""),
  ("addAgg", "\"addAgg\""),
  ("addRouteSendAllMatch", "\"addRoute sendAllMatch\""),
  ("addRouteSendFirstMatch", "\"addRoute sendFirstMatch\""),
  ("addRouteConsistentHashing", "\"addRoute consistentHashing\""),
  ("addRouteGrafanaNet", "\"addRoute grafanaNet\""),
  ("addRouteKafkaMdm", "\"addRoute kafkaMdm\""),
  ("addRoutePubSub", "\"addRoute pubsub\""),
  ("addDest", "\"addDest\""),
  ("addRewriter", "\"addRewriter\""),
  ("delRoute", "\"delRoute\""),
  ("modDest", "\"modDest\""),
  ("modRoute", "\"modRoute\""),
  ("optPrefix", "\"prefix=\""),
  ("optNotPrefix", "\"notPrefix=\""),
  ("optAddr", "\"addr=\""),
  ("optCache", "\"cache=\""),
  ("optDropRaw", "\"dropRaw=\""),
  ("optBlocking", "\"blocking=\""),
  ("optSub", "\"sub=\""),
  ("optNotSub", "\"notSub=\""),
  ("optRegex", "\"regex=\""),
  ("optNotRegex", "\"notRegex=\""),
  ("optFlush", "\"flush=\""),
  ("optReconn", "\"reconn=\""),
  ("optConnBufSize", "\"connbuf=\""),
  ("optIoBufSize", "\"iobuf=\""),
  ("optSpoolBufSize", "\"spoolbuf=\""),
  ("optSpoolMaxBytesPerFile", "\"spoolmaxbytesperfile=\""),
  ("optSpoolSyncEvery", "\"spoolsyncevery=\""),
  ("optSpoolSyncPeriod", "\"spoolsyncperiod=\""),
  ("optSpoolSleep", "\"spoolsleep=\""),
  ("optTLSEnabled", "\"tlsEnabled=\""),
  ("optTLSSkipVerify", "\"tlsSkipVerify=\""),
  ("optTLSClientCert", "\"tlsClientCert=\""),
  ("optTLSClientKey", "\"tlsClientKey=\""),
  ("optSASLEnabled", "\"saslEnabled=\""),
  ("optSASLMechanism", "\"saslMechanism=\""),
  ("optSASLUsername", "\"saslUsername=\""),
  ("optSASLPassword", "\"saslPassword=\""),
  ("optUnspoolSleep", "\"unspoolsleep=\""),
  ("optPickle", "\"pickle=\""),
  ("optSpool", "\"spool=\""),
  ("optTrue", "\"true\""),
  ("optFalse", "\"false\""),
  ("optBufSize", "\"bufSize=\""),
  ("optFlushMaxNum", "\"flushMaxNum=\""),
  ("optFlushMaxWait", "\"flushMaxWait=\""),
  ("optTimeout", "\"timeout=\""),
  ("optSSLVerify", "\"sslverify=\""),
  ("optErrBackoffMin", "\"errBackoffMin=\""),
  ("optErrBackoffFactor", "\"errBackoffFactor=\""),
  ("optConcurrency", "\"concurrency=\""),
  ("optOrgId", "\"orgId=\""),
  ("optPubSubProject", "\"project=\""),
  ("optPubSubTopic", "\"topic=\""),
  ("optPubSubFormat", "\"format=\""),
  ("optPubSubCodec", "\"codec=\""),
  ("optPubSubFlushMaxSize", "\"flushMaxSize=\""),
  ("str", "\"\\\".*\\\"\""),
  ("sep", "\"##\""),
  ("avgFn", "\"avg \""),
  ("maxFn", "\"max \""),
  ("minFn", "\"min \""),
  ("sumFn", "\"sum \""),
  ("lastFn", "\"last \""),
  ("countFn", "\"count \""),
  ("deltaFn", "\"delta \""),
  ("deriveFn", "\"derive \""),
  ("stdevFn", "\"stdev \""),
  ("num", "\"[0-9]+( |$)\""),
  ("word", "\"[^ ]+\"")] := rfl

/-- the model's token table lists the same definitions in the same order -/
theorem tokenNames_ok : Crng.Gen.tokenTable.map (·.1) = Crng.Tk.tokenTable.map (fun d =>
    -- the Go constant names of the nine function tokens end in Fn, the literals/str/sep/num/word are spelled alike
    d.name) := rfl

/-- the defaults block at the top of `readDestination` -/
theorem destDefaults_ok : Crng.Gen.destDefaults = [
  ("flush", "1000"),
  ("reconn", "10000"),
  ("connBufSize", "30000"),
  ("ioBufSize", "2000000"),
  ("spoolBufSize", "10000"),
  ("spoolMaxBytesPerFile", "int64(200 * 1024 * 1024)"),
  ("spoolSyncEvery", "int64(10000)"),
  ("spoolSyncPeriod", "time.Second"),
  ("spoolSleep", "time.Duration(500) * time.Microsecond"),
  ("unspoolSleep", "time.Duration(10) * time.Microsecond"),
  ("periodFlush", "time.Duration(flush) * time.Millisecond"),
  ("periodReConn", "time.Duration(reconn) * time.Millisecond")] := rfl

/-- … and the model's default destination carries the same values in the documented units -/
theorem modelDefaults_ok :
    let d : Crng.Tk.Dest := {}
    (d.flush, d.reconn, d.connBufSize, d.ioBufSize, d.spoolBufSize, d.spoolMaxBytesPerFile, d.spoolSyncEvery, d.spoolSyncPeriodMs, d.spoolSleepUs, d.unspoolSleepUs, d.spool, d.pickle)
      = (1000, 10000, 30000, 2000000, 10000, 200 * 1024 * 1024, 10000, 1000, 500, 10, false, false) := by intro d; rfl

/-- interpolation: only the four documented names, braced or followed by a word boundary; each arm returns its own variable -/
theorem interp_ok :
    (Crng.Gen.configVar == "regexp.MustCompile(`\\$\\{(HOST|GRAFANA_NET_ADDR|GRAFANA_NET_API_KEY|GRAFANA_NET_USER_ID)\\}|\\$(HOST|GRAFANA_NET_ADDR|GRAFANA_NET_API_KEY|GRAFANA_NET_USER_ID)\\b`)" &&
     Crng.Gen.expandArms == ["\"HOST\"", "\"GRAFANA_NET_ADDR\"", "\"GRAFANA_NET_API_KEY\"", "\"GRAFANA_NET_USER_ID\"", "default"] &&
     isSubseq ["0 return configVar.ReplaceAllStringFunc(string(data), func(ref string) string { return expandVars(strings.Trim(ref, \"${}\")) })"] Crng.Gen.skel_readConfigFile) = true := by
  rw [Crng.Gen.configVar, ofList_beq, beq_chars chars! chars!, isSubseq_chars chars! chars!]
  decide +kernel

end Crng.Tie.C20
