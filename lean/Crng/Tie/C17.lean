import Crng.Tie.Chars
import Crng.Gen.Skel
/-! regenerated obligations for C17: the grafanaNet route as `Crng/GNet.lean` has it (retry loop, what counts as acknowledged, worker loop,
shutdown, sharding), and the two modes of buffered dispatch -/
namespace Crng.Tie.C17
open Crng.Tie

/-- the retry loop leaves only on success, counts each failure, re-instantiates the same body -/
theorem retry_ok : isSubseq
    ["0 if len(metrics) == 0", "1 return metrics", "0 assign body := buffer.Bytes()", "0 for ; ; ", "1 assign dur, err = route.flush(mda, req)",
     "1 if err == nil", "2 branch break", "1 call route.numErrFlush.Inc(1)", "1 call time.Sleep(b)",
     "1 assign req.Body = ioutil.NopCloser(bytes.NewReader(body))", "0 return metrics[:0]"]
    Crng.Gen.skel_route_GrafanaNet_retryFlush = true := by
  rw [isSubseq_chars chars! chars!]; decide +kernel

/-- a request counts as acknowledged only with a 2xx status; transport errors and other statuses are errors -/
theorem flush_ok :
    (isSubseq ["0 assign resp, err := route.client.Do(req)", "0 if err != nil", "1 return dur, err", "0 if resp.StatusCode >= 200 && resp.StatusCode < 300",
               "1 return dur, nil", "0 return dur, fmt.Errorf(\"http %d - %s\", resp.StatusCode, buf[:n])"] Crng.Gen.skel_route_GrafanaNet_flush &&
     (containing "return dur, nil" Crng.Gen.skel_route_GrafanaNet_flush).all (fun s => s.startsWith "1 " || s.startsWith "2 ")) = true := by
  rw [containing_chars chars!, isSubseq_chars chars! chars!]
  decide +kernel

/-- worker: Done deferred; a received metric joins the batch, a full batch is flushed; the timer flushes; the shutdown branch
drains the shard queue, flushes and returns -/
theorem run_ok : isSubseq
    ["0 defer route.wg.Done()", "2 case buf := <-in", "3 if add(buf)", "2 case <-timer.C", "3 assign metrics = route.retryFlush(metrics, buffer)",
     "2 case <-route.shutdown", "5 case buf := <-in", "6 call add(buf)", "6 branch continue", "5 default ", "4 branch break",
     "3 assign metrics = route.retryFlush(metrics, buffer)", "3 return "]
    Crng.Gen.skel_route_GrafanaNet_run = true := by
  rw [isSubseq_chars chars! chars!]; decide +kernel

/-- shutdown reaches every worker (close) and waits for all of them -/
theorem shutdown_ok : Crng.Gen.skel_route_GrafanaNet_Shutdown = ["0 call close(route.shutdown)", "0 call route.wg.Wait()", "0 return nil"] := rfl

/-- sharding: FNV-1a 32 of the text before the first space, modulo the concurrency -/
theorem shard_ok : Crng.Gen.skel_route_GrafanaNet_Dispatch =
    ["0 assign buf = bytes.TrimSpace(buf)", "0 assign index := bytes.Index(buf, []byte(\" \"))", "0 if index == -1", "1 return ",
     "0 assign key := buf[:index]", "0 assign hasher := fnv.New32a()", "0 call hasher.Write(key)",
     "0 assign shard := int(hasher.Sum32() % uint32(route.Cfg.Concurrency))",
     "0 call route.dispatch(route.in[shard], buf, route.numBuffered, route.numDropBuffFull)"] := rfl

/-- non-blocking mode never waits and counts every drop; blocking mode never drops -/
theorem modes_ok :
    (Crng.Gen.skel_route_dispatchNonBlocking == ["0 select ", "1 case buf <- in", "2 call gauge.Inc(1)", "1 default ", "2 call drops.Inc(1)"] &&
     Crng.Gen.skel_route_dispatchBlocking == ["0 call gauge.Inc(1)", "0 send buf <- in"]) = true := by
  rw [beq_chars chars! chars!, beq_chars chars! chars!]
  decide +kernel

end Crng.Tie.C17
