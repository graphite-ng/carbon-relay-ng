import Crng.Tie.Chars
import Crng.Gen.Skel
/-! regenerated obligations for C13: the frame loop and the item checks of `input.Pickle.Handle`, modelled in `Crng/PickleIn.lean` -/
namespace Crng.Tie.C13
open Crng.Tie

/-- the frame loop: 4-byte big-endian length, clean EOF only at a frame boundary, 500 MiB cap, prefix check, exact payload read -/
theorem frame_ok : isSubseq
    ["0 assign r := bufio.NewReaderSize(c, 4096)", "0 assign maxLength := 500 * 1024 * 1024",
     "1 assign err := binary.Read(r, binary.BigEndian, &length)", "1 if err != nil", "2 if err != io.EOF", "2 return nil",
     "1 assign lengthTotal := int(length)", "1 if lengthTotal > maxLength", "1 if err := checkProtocol(r); err != nil", "2 return err",
     "2 assign toRead := lengthTotal - lengthRead", "2 if toRead > chunkLength", "3 assign toRead = chunkLength",
     "2 assign tmpLengthRead, err := r.Read(chunk[:toRead])", "2 assign lengthRead += tmpLengthRead",
     "2 call payload.Write(chunk[:tmpLengthRead])", "2 if lengthRead == lengthTotal", "3 branch break"]
    Crng.Gen.skel_input_Pickle_Handle = true := by
  rw [isSubseq_chars chars! chars!]; decide +kernel

/-- every structural rejection is `IncNumInvalid` followed by `continue`; the conversion verbs -/
theorem items_ok :
    (count "3 call p.dispatcher.IncNumInvalid()" Crng.Gen.skel_input_Pickle_Handle +
       count "4 call p.dispatcher.IncNumInvalid()" Crng.Gen.skel_input_Pickle_Handle == 7 &&
     isSubseq ["4 assign value = fmt.Sprintf(\"%d\", data[1])", "4 assign value = fmt.Sprintf(\"%f\", data[1])",
               "4 assign timestamp = fmt.Sprintf(\"%d\", data[0])", "4 assign timestamp = fmt.Sprintf(\"%.0f\", data[0])",
               "2 assign buf := []byte(metric + \" \" + value + \" \" + timestamp)", "2 call p.dispatcher.Dispatch(buf)"]
       Crng.Gen.skel_input_Pickle_Handle) = true := by
  rw [count_chars chars!, count_chars chars!, isSubseq_chars chars! chars!]
  decide +kernel

end Crng.Tie.C13
