import Crng.Gen.CodeTableOps
import Crng.Gen.CodeRouteOps
import Crng.CodeSpec
/-! Obligations of the regenerated *code* layer, table/table.go mutators (value level; the slice-header level — that no
published snapshot is written to — is `Crng.Props.C18` / `Crng.GoSlice`): adding appends at the end and changes nothing
else; deleting by index removes that entry only; an index at or beyond the end is rejected with an error and leaves the
table unchanged; deleting a route by key removes the first route with that key only and shuts that one down; an unknown
key is a no-op without error. Then the same for a route's destinations (route/route.go `addDestination` / `delDestination`). -/
namespace Crng.Tie.CodeTableOps
open Crng.Code Crng.Gen.Code Crng.CodeSpec

theorem addRoute_eq (t : Table) (r : RouteI) : t.AddRoute r = { t with config := { t.config with routes := t.config.routes ++ [r] } } := rfl
theorem addBlacklist_eq (t : Table) (m : MatcherI) : t.AddBlacklist m = { t with config := { t.config with blacklist := t.config.blacklist ++ [m] } } := rfl
theorem addAggregator_eq (t : Table) (a : AggregatorI) : t.AddAggregator a = { t with config := { t.config with aggregators := t.config.aggregators ++ [a] } } := rfl
theorem addRewriter_eq (t : Table) (rw : RewriterI) : t.AddRewriter rw = { t with config := { t.config with rewriters := t.config.rewriters ++ [rw] } } := rfl

/-- `append(s[:i:i], s[i+1:]...)` is the list without its `i`-th element -/
theorem cut_eq_eraseIdx {α} (l : List α) (i : Nat) :
    Lib.sliceTo l (i : Int) ++ Lib.sliceFrom l ((i : Int) + 1) = l.eraseIdx i := by
  simp only [Lib.sliceTo, Lib.sliceFrom, Int.toNat_natCast, Int.toNat_natCast_add_one]
  exact (List.eraseIdx_eq_take_drop_succ l i).symm

/-- **DelBlacklist (regenerated)** -/
theorem delBlacklist_eq (t : Table) (i : Nat) :
    t.DelBlacklist i =
      if i ≥ t.config.blacklist.length then ((some "Invalid index %d" : Err), t)
      else (none, { t with config := { t.config with blacklist := t.config.blacklist.eraseIdx i } }) := by
  unfold Table.DelBlacklist
  simp only [Lib.ge_len, cut_eq_eraseIdx, decide_eq_true_eq]

/-- **DelRewriter (regenerated)** -/
theorem delRewriter_eq (t : Table) (i : Nat) :
    t.DelRewriter i =
      if i ≥ t.config.rewriters.length then ((some "Invalid index %d" : Err), t)
      else (none, { t with config := { t.config with rewriters := t.config.rewriters.eraseIdx i } }) := by
  unfold Table.DelRewriter
  simp only [Lib.ge_len, cut_eq_eraseIdx, decide_eq_true_eq]

/-- **DelAggregator (regenerated)**: the removed aggregator, and only it, is shut down -/
theorem delAggregator_eq (t : Table) (i : Nat) :
    t.DelAggregator i =
      if h : i ≥ t.config.aggregators.length then ([], (some "Invalid index %d" : Err), t)
      else ((t.config.aggregators[i]'(by omega)).Shutdown.1,
            none, { t with config := { t.config with aggregators := t.config.aggregators.eraseIdx i } }) := by
  unfold Table.DelAggregator
  simp only [Lib.ge_len, cut_eq_eraseIdx, decide_eq_true_eq]
  split
  · rfl
  · rw [Lib.idx_of_lt _ _ (by omega)]; exact Res.bind_const _ _

/-- the search loop of `DelRoute` emits nothing; it ends with `route` and `toDelete` (the last two components of its
state) holding the first route with the key and its index, and with `toDelete` untouched when there is none -/
theorem forRange_findKey {ρ : Type} (key : Bytes) (rs : List (Int × RouteI)) (s : Int × RouteI × Int) :
    ∃ st, forRange (ρ := ρ) (fun (p : Int × RouteI) (s : Int × RouteI × Int) =>
        if (p.2.Key == key) = true then Res.pure (Step.brk (p.1, p.2, p.1)) else Res.pure (Step.next (p.1, p.2, s.2.2))) rs s =
      Res.pure (Out.done st) ∧
      match rs.find? (fun p => p.2.Key == key) with
      | some p => st.2 = (p.2, p.1)
      | none => st.2.2 = s.2.2 := by
  induction rs generalizing s with
  | nil => exact ⟨s, rfl, rfl⟩
  | cons p rs ih =>
    cases h : (p.2.Key == key)
    · obtain ⟨st, h1, h2⟩ := ih (p.1, p.2, s.2.2)
      refine ⟨st, ?_, ?_⟩
      · rw [forRange_cons_next (by simp only [h]; rfl), h1]; rfl
      · simpa only [List.find?_cons, h] using h2
    · refine ⟨(p.1, p.2, p.1), ?_, ?_⟩
      · rw [forRange_cons_brk (by simp only [h]; rfl)]; rfl
      · simp only [List.find?_cons, h]

/-- **DelRoute (regenerated)**: an unknown key is a no-op without error; otherwise the first route carrying the key — and
no other entry — is removed, that route is shut down, and its shutdown error (if any) is what the caller gets -/
theorem delRoute_eq (t : Table) (key : Bytes) :
    t.DelRoute key =
      match (Lib.enum t.config.routes).find? (fun p => p.2.Key == key) with
      | none => ([], none, t)
      | some p => (p.2.Shutdown.1, p.2.Shutdown.2,
          { t with config := { t.config with routes := Lib.sliceTo t.config.routes p.1 ++ Lib.sliceFrom t.config.routes (p.1 + 1) } }) := by
  unfold Table.DelRoute
  obtain ⟨⟨i, route, toDelete⟩, h, hst⟩ := forRange_findKey key (Lib.enum t.config.routes) (default, default, -1)
  simp only []
  rw [h, Res.bind_pure]
  cases hf : (Lib.enum t.config.routes).find? (fun p => p.2.Key == key) with
  | none =>
    -- `toDelete` is still -1
    rw [hf] at hst
    obtain rfl : toDelete = -1 := hst
    rfl
  | some p =>
    rw [hf] at hst
    obtain ⟨rfl, rfl⟩ := Prod.mk.inj hst
    -- an index of `enum` is never the `-1` that stands for "not found"
    have hp : (p.1 == -1) = false := by
      have := Lib.enum_nonneg _ _ (List.mem_of_find?_eq_some hf)
      simp; omega
    simp only [hp, Bool.false_eq_true, if_false]
    -- the caller gets the error of `Shutdown`, nil or not
    cases hs : p.2.Shutdown.2 <;> simp [Lib.notNil_none, Lib.notNil_some, hs, Res.bind, Res.pure]

/-! ### route level: adding and deleting destinations (`baseRoute.addDestination` / `delDestination`; the config extender —
identity for carbon routes, "rebuild the hash ring" for consistent hashing — is a parameter) -/
/-- **addDestination (regenerated)**: the destination is started and appended; filter and the other destinations unchanged -/
theorem addDestination_eq (r : baseRoute) (d : DestI) (ext : Matcher × List DestI → BaseConfig) :
    r.addDestination d ext = ([Ev.call "dest.Run" d.id []], { r with config := ext (r.config.Matcher, r.config.Dests ++ [d]) }) := rfl

/-- **delDestination (regenerated)**: an index at or beyond the end is an error and leaves the route unchanged; otherwise that
destination — and only it — is shut down and removed -/
theorem delDestination_eq (r : baseRoute) (i : Nat) (ext : Matcher × List DestI → BaseConfig) :
    r.delDestination i ext =
      if h : i ≥ r.config.Dests.length then ([], (some "Invalid index %d" : Err), r)
      else ((r.config.Dests[i]'(by omega)).Shutdown.1, none, { r with config := ext (r.config.Matcher, r.config.Dests.eraseIdx i) }) := by
  unfold baseRoute.delDestination
  simp only [Lib.ge_len, cut_eq_eraseIdx, decide_eq_true_eq]
  split
  · rfl
  · rw [Lib.idx_of_lt _ _ (by omega)]; exact Res.bind_const _ _

end Crng.Tie.CodeTableOps
