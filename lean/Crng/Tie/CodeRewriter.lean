import Crng.Gen.CodeRewriter
/-! Obligations of the regenerated *code* layer, rewriter/rewriter.go. `RW.Do`: a rule is skipped exactly when its not-clause
(regex, else substring) matches; a /regex/ rule is `ReplaceAll`; a literal rule is `bytes.Replace` with `Max`, i.e. the
model function `Crng.Rw.rwDo` / `replaceN` that `Crng.Props.C04` is about. `rewriter.New`: its closed form `new_eq`, and that
a literal rule it accepted rewrites like `rwDo`. -/
namespace Crng.Tie.CodeRewriter
open Crng.Code Crng.Gen.Code

theorem contains_eq (s p : Bytes) : Lib.bytes_Contains s p = Crng.Rw.contains s p := rfl

/-- **RW.Do (regenerated), literal rule with a substring not-clause = the model's `rwDo`** -/
theorem do_literal_eq (r : RW) (buf : Bytes) (hre : r.re = none) (hnr : r.notRe = none) :
    r.Do buf = Crng.Rw.rwDo r.old r.new r.not (if r.Max < 0 then none else some r.Max.toNat) buf := by
  unfold RW.Do Crng.Rw.rwDo Lib.bytes_Replace
  simp only [hre, hnr, Lib.notNil_none, Bool.false_eq_true, if_false, contains_eq]
  -- no regex anywhere: "has a not-clause" and "it occurs" guard the same replacement
  rw [ite_ite_same, Lib.len_pos]
  cases r.not <;> rfl

/-- a rule whose not-clause regex matches leaves the name alone; one whose not-clause substring occurs as well -/
theorem do_not_skips (r : RW) (buf : Bytes) :
    (∀ x, r.notRe = some x → x.Match buf = true → r.Do buf = buf) ∧
    (r.notRe = none → r.not ≠ [] → Lib.bytes_Contains buf r.not = true → r.Do buf = buf) := by
  refine ⟨fun x hx hm => ?_, fun hn hne hc => ?_⟩
  · unfold RW.Do; simp [hx, Lib.notNil_some, Option.Match, hm]
  · unfold RW.Do
    simp [hn, Lib.notNil_none, Lib.len_pos_of_ne_nil hne, hc]

/-- a /regex/ rule that is not skipped is `ReplaceAll(buf, new)` -/
theorem do_regex (r : RW) (x : RegexpI) (buf : Bytes) (hre : r.re = some x) (hnr : r.notRe = none) (hn : r.not = []) :
    r.Do buf = x.ReplaceAll buf r.new := by
  unfold RW.Do; simp [hre, hnr, hn, Lib.notNil_none, Lib.notNil_some, Lib.len, Option.ReplaceAll]

/-- a not-clause regex takes precedence over a not-clause substring (`else if`) -/
theorem do_notRe_precedence (r : RW) (x : RegexpI) (buf : Bytes) (hx : r.notRe = some x) (hm : x.Match buf = false)
    (hre : r.re = none) : r.Do buf = Lib.bytes_Replace buf r.old r.new r.Max := by
  unfold RW.Do; simp [hx, Lib.notNil_none, Lib.notNil_some, Option.Match, hm, hre]
/-! ### rewriter.New -/
/-- `/…/`: longer than one byte, first and last byte a slash -/
def isSlashed (b : Bytes) : Bool :=
  decide (Lib.len b > 1) && (Lib.slice b 0 1 == [47]) && (Lib.sliceFrom b (Lib.len b - 1) == [47])
def inner (b : Bytes) : Bytes := Lib.slice b 1 (Lib.len b - 1)

/-- **rewriter.New (regenerated), closed form**: empty `old` and `max < -1` are rejected; `old` is a regex rule exactly when
it is `/…/` (then the text between the slashes must compile and `max` must be -1), otherwise a literal rule; the same test
decides whether the not-clause is a regex or a substring; the accepted rule carries its arguments unchanged -/
theorem new_eq (E : Env) (old new not : Bytes) (max : Int) :
    rewriter_New E old new not max =
      if Lib.len old == 0 then (default, errEmptyOld)
      else if max < -1 then (default, errMaxTooLow)
      else if isSlashed old && (E.regexp_Compile (inner old)).2.isSome then (default, errInvalidRegexp)
      else if isSlashed old && max != -1 then (default, errInvalidRegexpMax)
      else if isSlashed not && (E.regexp_Compile (inner not)).2.isSome then (default, errInvalidNotRegexp)
      else ({ Old := old, New := new, Not := not, Max := max, old := old, new := new, not := not,
              re := if isSlashed old then (E.regexp_Compile (inner old)).1 else none,
              notRe := if isSlashed not then (E.regexp_Compile (inner not)).1 else none }, none) := by
  -- the generated tests for `/…/` are `isSlashed`; whether `old` and `not` are slashed is the only distinction needed
  unfold rewriter_New
  simp only [← isSlashed.eq_1, decide_eq_true_eq]
  cases isSlashed old <;> cases isSlashed not <;> rfl

/-- a literal rule that `New` accepted rewrites like the model's `rwDo` (C04), with `max = -1` meaning all -/
theorem new_then_do_literal (E : Env) (old new not : Bytes) (max : Int) (buf : Bytes)
    (hacc : (rewriter_New E old new not max).2 = none) (ho : isSlashed old = false) (hn : isSlashed not = false) :
    (rewriter_New E old new not max).1.Do buf = Crng.Rw.rwDo old new not (if max < 0 then none else some max.toNat) buf := by
  rw [new_eq] at hacc ⊢
  by_cases h0 : (Lib.len old == 0) = true
  · simp [h0, errEmptyOld] at hacc
  · by_cases h1 : max < -1
    · simp [h0, h1, errMaxTooLow] at hacc
    · simp only [h0, h1, ho, hn, Bool.false_and, Bool.false_eq_true, if_false]
      exact do_literal_eq _ buf rfl rfl

end Crng.Tie.CodeRewriter
