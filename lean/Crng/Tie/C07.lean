import Crng.Tie.Chars
import Crng.Gen.Skel
/-! regenerated obligations for C07: the statements of conn.go, keepsafe.go, spool.go, slowchan.go that the actions of
    `Crng/Spool.lean` and the slice-level `Crng/KeepSafe.lean` were written from (the relay loop's own branches: `Crng.Tie.C06`) -/
namespace Crng.Tie.C07
open Crng.Tie
open Crng.Gen

/-- the characters of `Conn.HandleData`'s skeleton, found once for the two obligations below -/
def handleDataC : {cs // Chars skel_destination_Conn_HandleData cs} := ⟨_, chars!⟩

/-- `take`/`keepAdd`: a line taken from In is put into keepSafe before it is written, and nothing between the two can block or return -/
theorem keep_before_write_ok : isInfix
    ["2 case buf := <-c.In", "3 assign active = time.Now()", "3 call c.numBuffered.Dec(1)", "3 assign action = \"write\"",
     "3 call verifSchedPoint(\"handledata-received\", buf)", "3 call c.keepSafe.Add(buf)", "3 assign n, err := c.Write(buf)",
     "3 if err != nil", "4 call c.close()", "4 return "] skel_destination_Conn_HandleData = true := by
  rw [isInfix_chars chars! handleDataC.2]; decide +kernel

/-- `stop`: HandleData only returns after close() (its own, on an error) or on the shutdown token close() sends; it announces its end through wg -/
theorem handledata_exits_ok :
    (containing "return" skel_destination_Conn_HandleData == ["4 return ", "4 return ", "4 return ", "3 return "] &&
     count "4 call c.close()" skel_destination_Conn_HandleData == 3 &&
     isInfix ["2 case <-c.shutdown", "3 return "] skel_destination_Conn_HandleData &&
     skel_destination_Conn_HandleData.head? == some "0 defer c.wg.Done()" &&
     skel_destination_Conn_checkEOF.head? == some "0 defer c.wg.Done()" &&
     skel_destination_Conn_close == ["0 call c.alive(false)", "0 send c.shutdown <- true", "0 call c.conn.Close()"]) = true := by
  rw [beq_chars (ys := skel_destination_Conn_close) chars! chars!, containing_chars handleDataC.2,
    count_chars handleDataC.2, isInfix_chars chars! handleDataC.2]
  decide +kernel

/-- `collect` (H2): getRedo first waits for the connection's goroutines, then drains In into keepSafe, then takes everything -/
theorem getredo_ok : skel_destination_Conn_getRedo =
    ["0 call c.wg.Wait()", "0 defer c.clearRedo()", "0 for ; ; ", "1 select ", "2 case buf := <-c.In", "3 call c.numBuffered.Dec(1)",
     "3 call c.keepSafe.Add(buf)", "2 default ", "3 return c.keepSafe.GetAll()"] := rfl

/-- `collect` → `ingest`: everything getRedo returned is handed to the spool -/
theorem collect_ok :
    (skel_destination_Destination_collectRedo == ["0 assign bulkData := conn.getRedo()", "0 call dest.spool.Ingest(bulkData)", "0 call dest.tasks.Done()"] &&
     skel_destination_Spool_Ingest == ["0 range _, buf := range bulkData", "1 send s.InBulk <- buf", "1 call time.Sleep(s.spoolSleep)"]) = true := by
  rw [beq_chars chars! chars!, beq_chars chars! chars!]
  decide +kernel

/-- keepSafe is the three operations of `Crng.KeepSafe`: append to recent; rotation = (old := recent; recent := a fresh slice); GetAll = append(old, recent...) then two fresh slices -/
theorem keepsafe_ok :
    (skel_destination_keepSafe_Add == ["0 call k.Lock()", "0 assign k.safeRecent = append(k.safeRecent, buf)", "0 call k.Unlock()"] &&
     isInfix ["2 case <-tick.C", "3 call k.Lock()", "3 assign k.safeOld = k.safeRecent", "3 assign k.safeRecent = make([][]byte, 0, k.initialCap)", "3 call k.Unlock()"] skel_destination_keepSafe_keepClean &&
     containing "safe" skel_destination_keepSafe_keepClean == ["3 assign k.safeOld = k.safeRecent", "3 assign k.safeRecent = make([][]byte, 0, k.initialCap)"] &&
     skel_destination_keepSafe_GetAll == ["0 call k.Lock()", "0 assign ret := append(k.safeOld, k.safeRecent...)", "0 assign k.safeOld = make([][]byte, 0, k.initialCap)",
       "0 assign k.safeRecent = make([][]byte, 0, k.initialCap)", "0 call k.Unlock()", "0 return ret"] &&
     containing "safeOld: make([][]byte, 0, initialCap), safeRecent: make([][]byte, 0, initialCap)" skel_destination_NewKeepSafe != []) = true := by
  rw [beq_chars chars! chars!, beq_chars (ys := skel_destination_keepSafe_GetAll) chars! chars!,
    containing_chars chars!, containing_chars chars!, isInfix_chars chars! chars!]
  decide +kernel

/-- the spool forwards every line it is given: InRT and InBulk → queueBuffer → disk queue; the slow chan forwards every line it reads -/
theorem spool_ok :
    (isInfix ["2 case buf := <-s.InRT", "3 call s.numIncomingRT.Inc(1)", "3 call s.durationBuffer.Time(func() { s.queueBuffer <- buf })"] skel_destination_Spool_Writer &&
     isInfix ["2 case buf := <-s.InBulk", "3 call s.numIncomingBulk.Inc(1)", "3 call s.durationBuffer.Time(func() { s.queueBuffer <- buf })"] skel_destination_Spool_Writer &&
     isInfix ["2 case buf := <-s.queueBuffer", "3 call s.numBuffered.Dec(1)", "3 call s.durationWrite.Time(func() { s.queue.Put(buf) })"] skel_destination_Spool_Buffer &&
     containing "for v := range backend { c <- v time.Sleep(sleep) }" skel_destination_NewSlowChan != []) = true := by
  rw [containing_chars chars!, isInfix_chars chars! chars!, isInfix_chars chars! chars!, isInfix_chars chars! chars!]
  decide +kernel

end Crng.Tie.C07
