import Crng.Tie.Chars
import Crng.Gen.Skel
/-! regenerated obligations for C06 (also used by C07): the branches of `Destination.relay` that the events of
`Crng/Relay.lean` were written from: every hand-off is a `select` with a counting `default`, and what can wait for the endpoint is off the dispatchers' path -/
namespace Crng.Tie.C06
open Crng.Tie

def relay := Crng.Gen.skel_destination_Destination_relay
/-- the characters of `relay`, found once for all obligations below -/
def relayC : {cs // Chars relay cs} := ⟨_, chars!⟩

/-- the hand-off branch: live connection → non-blocking send; else spool → non-blocking spool; else count -/
theorem handoff_branch_ok : isInfix
    ["2 case buf := <-dest.In", "3 if conn != nil", "4 call nonBlockingSend(buf)", "3 else ", "4 if dest.Spool", "5 call nonBlockingSpool(buf)",
     "4 else ", "5 call dest.numDropNoConnNoSpool.Inc(1)"] relay = true := by
  rw [isInfix_chars chars! relayC.2]; decide +kernel

/-- both helpers are `select` with a `default` that counts the drop: they never wait on the endpoint or the spool -/
theorem nonblocking_ok :
    (count "0 assign nonBlockingSend := func(buf []byte) { select { case conn.In <- buf: conn.numBuffered.Inc(1) default: log.Tracef(\"dest %s %s nonBlockingSend -> dropping due to slow conn\", dest.Key, buf) dest.numDropSlowConn.Inc(1) dest.SlowNow = true } }" relay == 1 &&
     count "0 assign nonBlockingSpool := func(buf []byte) { select { case dest.spool.InRT <- buf: log.Tracef(\"dest %s %s nonBlockingSpool -> added to spool\", dest.Key, buf) default: log.Tracef(\"dest %s %s nonBlockingSpool -> dropping due to slow spool\", dest.Key, buf) dest.numDropSlowSpool.Inc(1) } }" relay == 1) = true := by
  rw [count_chars relayC.2, count_chars relayC.2]
  decide +kernel

/-- dialing never happens inside the loop's own goroutine -/
theorem dial_async_ok : containing "updateConn(" relay = ["0 go dest.updateConn(dest.Addr)", "4 go dest.updateConn(dest.Addr)"] := by
  rw [containing_chars relayC.2]; decide +kernel

/-- calls that can wait for the endpoint (Flush, Close) occur only in the flush and shutdown branches, which no dispatcher reaches -/
theorem blocking_calls_ok :
    (containing "conn.Flush()" relay == ["4 send dest.flushErr <- conn.Flush()", "4 call conn.Flush()"] &&
     containing "conn.Close()" relay == ["4 call conn.Close()"] &&
     isInfix ["2 case <-dest.shutdown", "3 if conn != nil", "4 call conn.Flush()", "4 call conn.Close()"] relay &&
     isInfix ["2 case <-dest.flush", "3 if conn != nil", "4 send dest.flushErr <- conn.Flush()"] relay) = true := by
  rw [containing_chars relayC.2, containing_chars relayC.2, isInfix_chars chars! relayC.2, isInfix_chars chars! relayC.2]
  decide +kernel

/-- a dead connection is dropped without waiting; with spooling its unconfirmed lines are collected in a separate goroutine -/
theorem dead_conn_ok : isInfix
    ["1 if conn != nil", "2 if !conn.isAlive()", "3 assign dest.Online = false", "3 if dest.Spool", "4 call dest.tasks.Add(1)",
     "4 go dest.collectRedo(conn)", "3 else ", "4 call conn.clearRedo()", "3 assign conn = nil"] relay = true := by
  rw [isInfix_chars chars! relayC.2]; decide +kernel

/-- unspooling only while a connection exists and it has not been slow lately; unspooled lines use the same non-blocking send -/
theorem unspool_ok :
    (isInfix ["1 if conn != nil && dest.Spool && !dest.SlowLastLoop && !dest.SlowNow", "2 assign toUnspool = dest.spool.Out", "1 else ", "2 assign toUnspool = nil"] relay &&
     isInfix ["2 case buf := <-toUnspool", "3 call nonBlockingSend(buf)"] relay) = true := by
  rw [isInfix_chars chars! relayC.2, isInfix_chars chars! relayC.2]
  decide +kernel

/-- what a route does per destination before the hand-off is `dest.Match`: it holds the matcher lock only for the match itself, and
`Destination.Update` (modDest) never holds that lock — in particular not while `updateConn` dials a new address -/
theorem match_lock_ok :
    (Crng.Gen.skel_destination_Destination_Match == ["0 call dest.lockMatcher.Lock()", "0 defer dest.lockMatcher.Unlock()", "0 return dest.Matcher.Match(s)"] &&
     containing "lockMatcher" Crng.Gen.skel_destination_Destination_Update == [] &&
     containing "dest.Matcher" Crng.Gen.skel_destination_Destination_Update == [] &&
     containing "updateConn" Crng.Gen.skel_destination_Destination_Update == ["1 call dest.updateConn(addr)"]) = true := by
  rw [beq_chars chars! chars!, containing_chars chars!,
    containing_chars chars!, containing_chars chars!]
  decide +kernel

end Crng.Tie.C06
