import Crng.Tie.Chars
import Crng.Gen.Skel
import Crng.Gen.BufUses
/-! regenerated obligations for C04: `Table.Dispatch` works on a private copy of the caller's buffer, and the statements of `RW.Do` that
`Crng/Rewriter.lean` was written from -/
namespace Crng.Tie.C04
open Crng.Tie

/-- `Table.Dispatch` touches the caller's buffer only to size and fill its private copy -/
theorem bufUses_ok : Crng.Gen.dispatchBufUses = ["buf_copy := make([]byte, len(buf))", "copy(buf_copy, buf)"] := rfl

/-- everything downstream is derived from the copy: fields of the copy, rewriters on field 0, the aggregators get the
fields, the line handed to routes is the single-space join of the fields -/
theorem flow_ok : isSubseq
    ["0 assign buf_copy := make([]byte, len(buf))", "0 call copy(buf_copy, buf)",
     "0 assign fields := bytes.Fields(buf_copy)",
     "0 range _, rw := range conf.rewriters", "1 assign fields[0] = rw.Do(fields[0])",
     "1 assign dropRaw := aggregator.AddMaybe(fields, val, ts)",
     "0 assign final := bytes.Join(fields, []byte(\" \"))",
     "2 call route.Dispatch(final)"]
    Crng.Gen.skel_table_Table_Dispatch = true := by
  rw [isSubseq_chars chars! chars!]; decide +kernel

/-- `RW.Do`: not-clause (regex, else substring) first, then regex ReplaceAll or bytes.Replace with Max -/
theorem rwDo_ok : Crng.Gen.skel_rewriter_RW_Do =
    ["0 if r.notRe != nil", "1 if r.notRe.Match(buf)", "2 return buf", "0 else ", "1 if len(r.not) > 0",
     "2 if bytes.Contains(buf, r.not)", "3 return buf", "0 if r.re != nil", "1 return (*r.re).ReplaceAll(buf, r.new)",
     "0 return bytes.Replace(buf, r.old, r.new, r.Max)"] := rfl

end Crng.Tie.C04
