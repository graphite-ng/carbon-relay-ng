import Crng.Tie.Chars
import Crng.Gen.Skel
import Crng.Gen.Levels
import Crng.Validate
/-! regenerated obligations for C02: the configuration's validation level names and defaults (levels: `Crng/Validate.lean`), the validation gate at the
head of `Table.Dispatch` with its counters, and the goroutine that owns the bad-metrics table (`Crng/BadMetrics.lean`) -/
namespace Crng.Tie.C02
open Crng.Tie

/-- the level names of the configuration file, as `UnmarshalText` maps them today -/
theorem levelLegacy_ok : Crng.Gen.levelLegacy =
    [("strict", "m20.StrictLegacy"), ("medium", "m20.MediumLegacy"), ("none", "m20.NoneLegacy")] := rfl
theorem levelM20_ok : Crng.Gen.levelM20 = [("medium", "m20.MediumM20"), ("none", "m20.NoneM20")] := rfl
theorem defaults_ok : Crng.Gen.cfgValidationDefaults =
    [("Validation_level_legacy", "validate.LevelLegacy{m20.MediumLegacy}"), ("Validation_level_m20", "validate.LevelM20{m20.MediumM20}")] := rfl

/-- name → level of the model, read off the generated table -/
def parseLegacy (s : String) : Option Crng.Val.LegacyLevel :=
  match Crng.Gen.levelLegacy.lookup s with
  | some "m20.StrictLegacy" => some .strict | some "m20.MediumLegacy" => some .medium | some "m20.NoneLegacy" => some .none | _ => none
def parseM20 (s : String) : Option Crng.Val.M20Level :=
  match Crng.Gen.levelM20.lookup s with
  | some "m20.MediumM20" => some .medium | some "m20.NoneM20" => some .none | _ => none

/-- the documented spellings mean the documented levels; anything else is a configuration error -/
theorem level_names :
    parseLegacy "strict" = some .strict ∧ parseLegacy "medium" = some .medium ∧ parseLegacy "none" = some .none ∧
    parseM20 "medium" = some .medium ∧ parseM20 "none" = some .none ∧
    parseLegacy "Strict" = none ∧ parseM20 "strict" = none ∧ parseLegacy "" = none := by decide

/-- the characters of `Table.Dispatch`'s skeleton, found once for the obligations below -/
def dispatchC : {cs // Chars Crng.Gen.skel_table_Table_Dispatch cs} := ⟨_, chars!⟩

/-- the gate: validate with the two configured levels in this order; on error record, count, return -/
theorem gate_ok : isInfix
    ["0 assign key, val, ts, err := m20.ValidatePacket(buf_copy, conf.Validation_level_legacy.Level, conf.Validation_level_m20.Level)",
     "0 if err != nil", "1 call table.bad.Add(key, buf_copy, err)", "1 call table.numInvalid.Inc(1)", "1 return "]
    Crng.Gen.skel_table_Table_Dispatch = true := by
  rw [isInfix_chars chars! dispatchC.2]; decide +kernel

/-- every received line increments the inbound counter exactly once, before anything can return -/
theorem numIn_ok :
    (count "0 call table.numIn.Inc(1)" Crng.Gen.skel_table_Table_Dispatch == 1 &&
     (containing "numIn." Crng.Gen.skel_table_Table_Dispatch).length == 1 &&
     isSubseq ["0 call table.numIn.Inc(1)", "0 assign conf := table.config.Load().(TableConfig)"] Crng.Gen.skel_table_Table_Dispatch) = true := by
  rw [containing_chars dispatchC.2, count_chars dispatchC.2, isSubseq_chars chars! dispatchC.2]
  decide +kernel

/-- nothing is forwarded before the gate: the first AddMaybe / Dispatch come after it -/
theorem gate_first : isSubseq
    ["0 if err != nil", "1 return ", "1 assign dropRaw := aggregator.AddMaybe(fields, val, ts)", "2 call route.Dispatch(final)"]
    Crng.Gen.skel_table_Table_Dispatch = true := by
  rw [isSubseq_chars chars! dispatchC.2]; decide +kernel

/-- the bad-metrics goroutine serialises add / clean / get (one select over the three) -/
theorem bad_serialised : isSubseq
    ["1 select ", "2 case in := <-b.In", "3 assign b.seen[in.Metric] = in", "2 case <-clean.C", "2 case oldest := <-b.getReq"]
    Crng.Gen.skel_badmetrics_BadMetrics_manage = true := by
  rw [isSubseq_chars chars! chars!]; decide +kernel

end Crng.Tie.C02
