import Crng.Tie.Chars
import Crng.Gen.Skel
import Crng.Gen.PanicSites
/-! regenerated obligations for C14: the acceptance tests and guarded uses that `Crng/Safe.lean` states, and the inventory of every
    construct that can panic at run time (index, slice, unchecked type assertion, division by a non-constant, explicit
    panic/exit, ticker, sized make, close, MustCompile) in the files network input and admin commands reach.
    The inventory is compared with the list that was examined when the check was written: a new or changed site breaks the
    obligation and has to be looked at (and searched for a crashing input) before the list is updated. -/
namespace Crng.Tie.C14
open Crng.Tie
open Crng.Gen

/-- aggregator.New = `aggAccept` (with NewMocked's function and regex tests), and it hands the checked period to AlignedTick -/
theorem agg_new_ok :
    (skel_aggregator_New == [
  "0 if interval == 0",
  "1 return nil, errors.New(\"aggregation interval must be > 0\")",
  "0 assign period := time.Duration(interval) * time.Second",
  "0 if period <= 0 || period/time.Second != time.Duration(interval)",
  "1 return nil, errors.New(\"aggregation interval is too large\")",
  "0 assign ticker := clock.AlignedTick(period, time.Duration(wait)*time.Second, 2)",
  "0 return NewMocked(fun, matcher, outFmt, cache, interval, wait, dropRaw, out, 2000, time.Now, ticker)"] &&
     isInfix ["0 assign procConstr, err := GetProcessorConstructor(fun)", "0 if err != nil", "1 return nil, err", "0 if interval == 0",
              "1 return nil, errors.New(\"aggregation interval must be > 0\")", "0 if matcher.Regex == \"\"", "1 return nil, errors.New(\"aggregation needs a regex\")"] skel_aggregator_NewMocked) = true := by
  rw [beq_chars chars! chars!, isInfix_chars chars! chars!]
  decide +kernel

/-- AlignedTick is `tickDiff` followed by Sleep -/
theorem aligned_tick_ok : skel_clock_AlignedTick = [
  "0 assign c := make(chan time.Time, bufSize)",
  "0 go func() { for { unix := time.Now().UnixNano() adjusted := time.Duration(unix) - offset diff := time.Duration(period - adjusted%period) time.Sleep(diff) select { case c <- time.Now(): default: } } }()",
  "0 return c"] := rfl

/-- destination.New = `destAccept` -/
theorem dest_new_ok : skel_destination_New.take 8 = [
  "0 if periodFlush <= 0 || periodReConn <= 0",  "1 return nil, errors.New(\"flush and reconn periods must be > 0\")",  "0 if connBufSize < 0 || ioBufSize <= 0",  "1 return nil, errors.New(\"connbuf must be >= 0 and iobuf must be > 0\")",  "0 if spool && (spoolBufSize < 0 || spoolSyncPeriod <= 0)",  "1 return nil, errors.New(\"spoolbuf must be >= 0 and spoolsyncperiod must be > 0\")",  "0 if connBufSize > math.MaxInt32 || ioBufSize > math.MaxInt32 || (spool && spoolBufSize > math.MaxInt32)",  "1 return nil, errors.New(\"connbuf, iobuf and spoolbuf sizes this large cannot be allocated\")"] := rfl

/-- route.NewGrafanaNet = `gnAccept`, and the uses `gnUses` lists -/
theorem gn_new_ok :
    (skel_route_NewGrafanaNet.take 4 == [
  "0 if cfg.Concurrency < 1 || cfg.BufSize < 0 || cfg.FlushMaxNum < 1 || cfg.FlushMaxWait <= 0",  "1 return nil, errors.New(\"NewGrafanaNet: concurrency, flushMaxNum and flushMaxWait must be > 0 and bufSize must be >= 0\")",  "0 if cfg.Concurrency > math.MaxInt32 || cfg.BufSize > math.MaxInt32 || cfg.FlushMaxNum > math.MaxInt32",  "1 return nil, errors.New(\"NewGrafanaNet: concurrency, bufSize and flushMaxNum this large cannot be allocated\")"] &&
     count "0 call r.wg.Add(cfg.Concurrency)" skel_route_NewGrafanaNet == 1 &&
     isInfix ["0 for i := 0; i < cfg.Concurrency; i++", "1 assign r.in[i] = make(chan []byte, cfg.BufSize/cfg.Concurrency)", "1 go r.run(r.in[i])"] skel_route_NewGrafanaNet) = true := by
  rw [beq_chars chars! chars!, count_chars chars!,
    isInfix_chars chars! chars!]
  decide +kernel

/-- the grafanaNet address: the constructor of the config applies to the text the test getGrafanaNetAddr panics on -/
theorem gn_addr_ok :
    (isInfix ["0 if !strings.HasSuffix(strings.TrimSuffix(addr, \"/\"), \"/metrics\")",
              "1 return GrafanaNetConfig{}, fmt.Errorf(\"NewGrafanaNetConfig: invalid value for 'addr': %q. needs to end on /metrics or /metrics/\", addr)"] skel_route_NewGrafanaNetConfig &&
     skel_route_getGrafanaNetAddr.take 4 == [
  "0 if strings.HasSuffix(addr, \"/\")",  "1 assign addr = addr[:len(addr)-1]",  "0 if !strings.HasSuffix(addr, \"/metrics\")",  "1 call panic(\"getAddr called on an addr that does not end on /metrics or /metrics/ - this is not supported. Normally NewGrafanaNetConfig would already have validated this\")"]) = true := by
  rw [beq_chars chars! chars!, isInfix_chars chars! chars!]
  decide +kernel

/-- consistent hashing: `chStep`'s refusal below two destinations, and the modulo by the ring length -/
theorem ch_ok :
    (skel_route_ConsistentHashing_DelDestination == [
  "0 if conf := route.config.Load().(Config); len(conf.Dests()) < 2",
  "1 return fmt.Errorf(\"cannot remove the last destination of a consistentHashing route\")",
  "0 return route.delDestination(index, consistentHashingConfigExtender)"] &&
     skel_route_ConsistentHasher_GetDestinationIndex == [
  "0 assign position := computeRingPosition(key)",
  "0 assign index := sort.Search(len(h.Ring), func(i int) bool { return h.Ring[i].Position >= position }) % len(h.Ring)",
  "0 return h.Ring[index].DestinationIndex"]) = true := by
  rw [beq_chars chars! chars!, beq_chars chars! chars!]
  decide +kernel

/-- modDest / DelDestination: `guardedIndex` — the comparison is `>=`, and it comes before the indexing -/
theorem index_guard_ok :
    (isInfix ["0 if index >= len(conf.Dests())", "1 return fmt.Errorf(\"Invalid index %d\", index)", "0 assign err := conf.Dests()[index].Update(opts)"] skel_route_baseRoute_updateDestination &&
     isInfix ["0 if index >= len(conf.Dests())", "1 return fmt.Errorf(\"Invalid index %d\", index)", "0 call conf.Dests()[index].Shutdown()"] skel_route_baseRoute_delDestination &&
     containing "[index" skel_route_baseRoute_updateDestination == ["0 assign err := conf.Dests()[index].Update(opts)"]) = true := by
  rw [containing_chars chars!,
    isInfix_chars chars! chars!, isInfix_chars chars! chars!]
  decide +kernel

/-- a line a pickle destination cannot convert is counted and dropped *before* Pickle(dp) is reached -/
theorem conn_write_ok : isInfix
    ["0 if c.pickle", "1 assign dp, err := ParseDataPoint(buf)", "1 if err != nil", "2 call fmt.Fprintln(os.Stderr, err)", "2 call c.numDropBadPickle.Inc(1)",
     "2 return 0, nil", "1 assign buf = Pickle(dp)"] skel_destination_Conn_Write = true := by
  rw [isInfix_chars chars! chars!]; decide +kernel

/-- the admin connection loop: one read = one command, split and re-joined, handler errors written back — nothing else -/
theorem telnet_ok : skel_telnet_handleApiRequest = [
  "0 assign buf := make([]byte, 1024)",
  "0 for ; ; ",
  "1 call conn.Write([]byte(\"inspecting status is fine, but making changes on-the-fly is an experimental feature\\n\"))",
  "1 assign n, err := conn.Read(buf)",
  "1 if err != nil",
  "2 if err == io.EOF",
  "2 else ",
  "2 call conn.Close()",
  "2 branch break",
  "1 assign clean_cmd := strings.TrimSpace(string(buf[:n]))",
  "1 assign command := strings.Split(clean_cmd, \" \")",
  "1 assign req := Req{command, &conn}",
  "1 assign fn := getHandler(clean_cmd)",
  "1 if fn != nil",
  "2 assign err := fn(req)",
  "2 if err != nil",
  "3 call conn.Write([]byte(err.Error() + \"\\n\"))",
  "1 else ",
  "2 call conn.Write([]byte(\"unrecognized command\\n\"))"] := rfl

/-- the examined inventory -/
def examined : List String := [
  "aggregator/aggregator.go:Aggregator.AddMaybe index buf[0]",
  "aggregator/aggregator.go:Aggregator.AddMaybe index buf[0]",
  "aggregator/aggregator.go:Aggregator.AddOrCreate index a.aggregations[quantized]",
  "aggregator/aggregator.go:Aggregator.AddOrCreate index a.aggregations[quantized]",
  "aggregator/aggregator.go:Aggregator.AddOrCreate index a.tsList[len(a.tsList)-2]",
  "aggregator/aggregator.go:Aggregator.AddOrCreate index agg.state[key]",
  "aggregator/aggregator.go:Aggregator.AddOrCreate index agg.state[key]",
  "aggregator/aggregator.go:Aggregator.Flush index a.aggregations[ts]",
  "aggregator/aggregator.go:Aggregator.Flush index results[0]",
  "aggregator/aggregator.go:Aggregator.Flush slice a.tsList[0:]",
  "aggregator/aggregator.go:Aggregator.Flush slice a.tsList[:0]",
  "aggregator/aggregator.go:Aggregator.Flush slice a.tsList[:len(a.tsList)-pos-1]",
  "aggregator/aggregator.go:Aggregator.Flush slice a.tsList[pos+1:]",
  "aggregator/aggregator.go:Aggregator.Shutdown close close(a.shutdown)",
  "aggregator/aggregator.go:Aggregator.matchWithCache index a.reCache[string(key)]",
  "aggregator/aggregator.go:Aggregator.matchWithCache index a.reCache[string(key)]",
  "aggregator/aggregator.go:Aggregator.matchWithCache index a.reCache[string(key)]",
  "aggregator/aggregator.go:Aggregator.run div ts % a.Interval",
  "aggregator/aggregator.go:Aggregator.run index aggsCopy[quant]",
  "aggregator/aggregator.go:Aggregator.run index msg.buf[0]",
  "aggregator/aggregator.go:Aggregator.run index stateCopy[key]",
  "aggregator/aggregator.go:Aggregator.setKey slice key[:7]",
  "aggregator/aggregator.go:New div period / time.Second",
  "aggregator/aggregator.go:New ticker clock.AlignedTick(period, time.Duration(wait)*time.Second, 2)",
  "aggregator/aggregator.go:NewMocked make make(chan msg, inBuf)",
  "aggregator/aggregator.go:TsSlice.Less index p[i]",
  "aggregator/aggregator.go:TsSlice.Less index p[j]",
  "aggregator/aggregator.go:TsSlice.Swap index p[i]",
  "aggregator/aggregator.go:TsSlice.Swap index p[i]",
  "aggregator/aggregator.go:TsSlice.Swap index p[j]",
  "aggregator/aggregator.go:TsSlice.Swap index p[j]",
  "cfg/table.go:InitBlacklist index parts[0]",
  "cfg/table.go:InitBlacklist index parts[1]",
  "cfg/table.go:InitBlacklist index parts[1]",
  "cfg/table.go:InitBlacklist index parts[1]",
  "cfg/table.go:InitBlacklist index parts[1]",
  "cfg/table.go:InitBlacklist index parts[1]",
  "cfg/table.go:InitBlacklist index parts[1]",
  "cfg/table.go:InitBlacklist index parts[1]",
  "cfg/table.go:InitRoutes assert meta.Mapping[\"route\"].([]map[string]interface{})",
  "cfg/table.go:InitRoutes assert v2.(bool)",
  "cfg/table.go:InitRoutes assert v2.(bool)",
  "cfg/table.go:InitRoutes assert v2.(bool)",
  "cfg/table.go:InitRoutes index meta.Mapping[\"route\"]",
  "clock/clock.go:AlignedTick div adjusted % period",
  "clock/clock.go:AlignedTick make make(chan time.Time, bufSize)",
  "destination/conn.go:Conn.HandleData ticker time.NewTicker(periodFlush)",
  "destination/conn.go:Conn.checkEOF slice b[:num]",
  "destination/conn.go:NewConn make make(chan []byte, connBufSize)",
  "destination/destination.go:Destination.Run exit panic(fmt.Sprintf(\"Run() called on already running dest %q\", dest.Key))",
  "destination/destination.go:Destination.relay close close(signalConnOnline)",
  "destination/destination.go:Destination.relay ticker time.NewTicker(dest.periodReConn)",
  "destination/destination.go:addrInstanceSplit index addrComponents[2]",
  "destination/destination.go:addrInstanceSplit slice addrComponents[0:2]",
  "destination/metric.go:ParseDataPoint index elements[0]",
  "destination/metric.go:ParseDataPoint index elements[1]",
  "destination/metric.go:ParseDataPoint index elements[2]",
  "destination/pickle.go:Pickle exit log.Fatal(err.Error())",
  "imperatives/imperatives.go:readAddAgg slice t.Value[:len(t.Value)-1]",
  "imperatives/imperatives.go:readModDest index opts[\"addr\"]",
  "imperatives/imperatives.go:readModDest index opts[\"notPrefix\"]",
  "imperatives/imperatives.go:readModDest index opts[\"notRegex\"]",
  "imperatives/imperatives.go:readModDest index opts[\"notSub\"]",
  "imperatives/imperatives.go:readModDest index opts[\"prefix\"]",
  "imperatives/imperatives.go:readModDest index opts[\"regex\"]",
  "imperatives/imperatives.go:readModDest index opts[\"sub\"]",
  "imperatives/imperatives.go:readModRoute index opts[\"notPrefix\"]",
  "imperatives/imperatives.go:readModRoute index opts[\"notRegex\"]",
  "imperatives/imperatives.go:readModRoute index opts[\"notSub\"]",
  "imperatives/imperatives.go:readModRoute index opts[\"prefix\"]",
  "imperatives/imperatives.go:readModRoute index opts[\"regex\"]",
  "imperatives/imperatives.go:readModRoute index opts[\"sub\"]",
  "input/amqp.go:Amqp.Stop close close(a.shutdown)",
  "input/listen.go:Listener.Stop close close(l.shutdown)",
  "input/listen.go:Listener.acceptTcpConn close close(connClose)",
  "input/listen.go:Listener.consumeUdp slice buffer[:b]",
  "input/pickle.go:Pickle.Handle assert data[0].(string)",
  "input/pickle.go:Pickle.Handle assert data[1].(string)",
  "input/pickle.go:Pickle.Handle index data[0]",
  "input/pickle.go:Pickle.Handle index data[0]",
  "input/pickle.go:Pickle.Handle index data[0]",
  "input/pickle.go:Pickle.Handle index data[0]",
  "input/pickle.go:Pickle.Handle index data[0]",
  "input/pickle.go:Pickle.Handle index data[1]",
  "input/pickle.go:Pickle.Handle index data[1]",
  "input/pickle.go:Pickle.Handle index data[1]",
  "input/pickle.go:Pickle.Handle index data[1]",
  "input/pickle.go:Pickle.Handle index data[1]",
  "input/pickle.go:Pickle.Handle index item[0]",
  "input/pickle.go:Pickle.Handle index item[0]",
  "input/pickle.go:Pickle.Handle index item[1]",
  "input/pickle.go:Pickle.Handle index item[1]",
  "input/pickle.go:Pickle.Handle make make([]byte, chunkLength, chunkLength)",
  "input/pickle.go:Pickle.Handle slice chunk[:tmpLengthRead]",
  "input/pickle.go:Pickle.Handle slice chunk[:toRead]",
  "input/pickle.go:checkProtocol index prefix[0]",
  "input/pickle.go:checkProtocol index prefix[0]",
  "input/pickle.go:checkProtocol index prefix[0]",
  "input/pickle.go:checkProtocol index prefix[0]",
  "input/pickle.go:checkProtocol index prefix[1]",
  "input/pickle.go:checkProtocol index prefix[2]",
  "input/pickle.go:checkProtocol index prefix[2]",
  "matcher/matcher.go:regexToPrefix index re.Sub[0]",
  "matcher/matcher.go:regexToPrefix slice re.Sub[1:]",
  "rewriter/rewriter.go:New slice not[0:1]",
  "rewriter/rewriter.go:New slice not[1 : len(not)-1]",
  "rewriter/rewriter.go:New slice not[len(not)-1:]",
  "rewriter/rewriter.go:New slice old[0:1]",
  "rewriter/rewriter.go:New slice old[1 : len(old)-1]",
  "rewriter/rewriter.go:New slice old[len(old)-1:]",
  "route/consistent_hashing.go:ConsistentHasher.AddDestination index newRingEntries[i]",
  "route/consistent_hashing.go:ConsistentHasher.AddDestination index newRingEntries[i]",
  "route/consistent_hashing.go:ConsistentHasher.AddDestination index newRingEntries[i]",
  "route/consistent_hashing.go:ConsistentHasher.AddDestination index newRingEntries[i]",
  "route/consistent_hashing.go:ConsistentHasher.AddDestination index server[0]",
  "route/consistent_hashing.go:ConsistentHasher.AddDestination index server[0]",
  "route/consistent_hashing.go:ConsistentHasher.AddDestination make make(hashRing, h.replicaCount)",
  "route/consistent_hashing.go:ConsistentHasher.GetDestinationIndex div sort.Search(len(h.Ring), func(i int) bool { return h.Ring[i].Position >= position }) % len(h.Ring)",
  "route/consistent_hashing.go:ConsistentHasher.GetDestinationIndex index h.Ring[i]",
  "route/consistent_hashing.go:ConsistentHasher.GetDestinationIndex index h.Ring[index]",
  "route/consistent_hashing.go:computeRingPosition slice hash[0:2]",
  "route/consistent_hashing.go:hashRing.Less index r[i]",
  "route/consistent_hashing.go:hashRing.Less index r[i]",
  "route/consistent_hashing.go:hashRing.Less index r[i]",
  "route/consistent_hashing.go:hashRing.Less index r[i]",
  "route/consistent_hashing.go:hashRing.Less index r[i]",
  "route/consistent_hashing.go:hashRing.Less index r[i]",
  "route/consistent_hashing.go:hashRing.Less index r[j]",
  "route/consistent_hashing.go:hashRing.Less index r[j]",
  "route/consistent_hashing.go:hashRing.Less index r[j]",
  "route/consistent_hashing.go:hashRing.Less index r[j]",
  "route/consistent_hashing.go:hashRing.Less index r[j]",
  "route/consistent_hashing.go:hashRing.Less index r[j]",
  "route/consistent_hashing.go:hashRing.Swap index r[i]",
  "route/consistent_hashing.go:hashRing.Swap index r[i]",
  "route/consistent_hashing.go:hashRing.Swap index r[j]",
  "route/consistent_hashing.go:hashRing.Swap index r[j]",
  "route/grafananet.go:GrafanaNet.Dispatch div hasher.Sum32() % uint32(route.Cfg.Concurrency)",
  "route/grafananet.go:GrafanaNet.Dispatch index route.in[shard]",
  "route/grafananet.go:GrafanaNet.Dispatch slice buf[:index]",
  "route/grafananet.go:GrafanaNet.Shutdown close close(route.shutdown)",
  "route/grafananet.go:GrafanaNet.flush index mda[idx]",
  "route/grafananet.go:GrafanaNet.flush slice buf[:n]",
  "route/grafananet.go:GrafanaNet.postConfig exit panic(err)",
  "route/grafananet.go:GrafanaNet.retryFlush exit panic(err)",
  "route/grafananet.go:GrafanaNet.retryFlush exit panic(err)",
  "route/grafananet.go:GrafanaNet.retryFlush slice metrics[:0]",
  "route/grafananet.go:GrafanaNet.updateAggregation ticker time.Tick(6 * time.Hour)",
  "route/grafananet.go:GrafanaNet.updateSchemas ticker time.Tick(6 * time.Hour)",
  "route/grafananet.go:NewGrafanaNet div cfg.BufSize / cfg.Concurrency",
  "route/grafananet.go:NewGrafanaNet index r.in[i]",
  "route/grafananet.go:NewGrafanaNet index r.in[i]",
  "route/grafananet.go:NewGrafanaNet make make([]chan []byte, cfg.Concurrency)",
  "route/grafananet.go:NewGrafanaNet make make(chan []byte, cfg.BufSize/cfg.Concurrency)",
  "route/grafananet.go:getGrafanaNetAddr exit panic(\"getAddr called on an addr that does not end on /metrics or /metrics/ - this is not supported. Normally NewGrafanaNetConfig would already have validated this\")",
  "route/grafananet.go:getGrafanaNetAddr slice addr[:len(addr)-1]",
  "route/route.go:ConsistentHashing.DelDestination assert route.config.Load().(Config)",
  "route/route.go:ConsistentHashing.Dispatch assert route.config.Load().(consistentHashingConfig)",
  "route/route.go:ConsistentHashing.Dispatch index conf.Dests()[conf.Hasher.GetDestinationIndex(name)]",
  "route/route.go:ConsistentHashing.Dispatch slice buf[0:pos]",
  "route/route.go:SendAllMatch.Dispatch assert route.config.Load().(Config)",
  "route/route.go:SendFirstMatch.Dispatch assert route.config.Load().(Config)",
  "route/route.go:baseRoute.Flush assert route.config.Load().(Config)",
  "route/route.go:baseRoute.GetDestination assert route.config.Load().(Config)",
  "route/route.go:baseRoute.GetDestination index conf.Dests()[index]",
  "route/route.go:baseRoute.Match assert route.config.Load().(Config)",
  "route/route.go:baseRoute.Shutdown assert route.config.Load().(Config)",
  "route/route.go:baseRoute.addDestination assert route.config.Load().(Config)",
  "route/route.go:baseRoute.delDestination assert route.config.Load().(Config)",
  "route/route.go:baseRoute.delDestination index conf.Dests()[index]",
  "route/route.go:baseRoute.delDestination slice conf.Dests()[:index:index]",
  "route/route.go:baseRoute.delDestination slice conf.Dests()[index+1:]",
  "route/route.go:baseRoute.run assert route.config.Load().(Config)",
  "route/route.go:baseRoute.update assert route.config.Load().(Config)",
  "route/route.go:baseRoute.updateDestination assert route.config.Load().(Config)",
  "route/route.go:baseRoute.updateDestination index conf.Dests()[index]",
  "route/route.go:baseRoute.updateMatcher assert route.config.Load().(Config)",
  "route/route.go:makeSnapshot assert route.config.Load().(Config)",
  "route/route.go:makeSnapshot index dests[i]",
  "route/route.go:makeSnapshot make make([]*dest.Destination, len(conf.Dests()))",
  "route/route.go:metricName slice buf[:pos]",
  "table/table.go:Table.AddAggregator assert table.config.Load().(TableConfig)",
  "table/table.go:Table.AddBlacklist assert table.config.Load().(TableConfig)",
  "table/table.go:Table.AddRewriter assert table.config.Load().(TableConfig)",
  "table/table.go:Table.AddRoute assert table.config.Load().(TableConfig)",
  "table/table.go:Table.DelAggregator assert table.config.Load().(TableConfig)",
  "table/table.go:Table.DelAggregator index conf.aggregators[id]",
  "table/table.go:Table.DelAggregator slice conf.aggregators[:id:id]",
  "table/table.go:Table.DelAggregator slice conf.aggregators[id+1:]",
  "table/table.go:Table.DelBlacklist assert table.config.Load().(TableConfig)",
  "table/table.go:Table.DelBlacklist slice conf.blacklist[:index:index]",
  "table/table.go:Table.DelBlacklist slice conf.blacklist[index+1:]",
  "table/table.go:Table.DelRewriter assert table.config.Load().(TableConfig)",
  "table/table.go:Table.DelRewriter slice conf.rewriters[:id:id]",
  "table/table.go:Table.DelRewriter slice conf.rewriters[id+1:]",
  "table/table.go:Table.DelRoute assert table.config.Load().(TableConfig)",
  "table/table.go:Table.DelRoute slice conf.routes[:toDelete:toDelete]",
  "table/table.go:Table.DelRoute slice conf.routes[toDelete+1:]",
  "table/table.go:Table.Dispatch assert table.config.Load().(TableConfig)",
  "table/table.go:Table.Dispatch index fields[0]",
  "table/table.go:Table.Dispatch index fields[0]",
  "table/table.go:Table.Dispatch index fields[0]",
  "table/table.go:Table.Dispatch index fields[0]",
  "table/table.go:Table.Dispatch make make([]byte, len(buf))",
  "table/table.go:Table.DispatchAggregate assert table.config.Load().(TableConfig)",
  "table/table.go:Table.DispatchAggregate slice buf[:pos]",
  "table/table.go:Table.Flush assert table.config.Load().(TableConfig)",
  "table/table.go:Table.GetRoute assert table.config.Load().(TableConfig)",
  "table/table.go:Table.Shutdown assert table.config.Load().(TableConfig)",
  "table/table.go:Table.Snapshot assert table.config.Load().(TableConfig)",
  "table/table.go:Table.Snapshot index aggs[i]",
  "table/table.go:Table.Snapshot index blacklist[i]",
  "table/table.go:Table.Snapshot index rewriters[i]",
  "table/table.go:Table.Snapshot index routes[i]",
  "table/table.go:Table.Snapshot make make([]*aggregator.Aggregator, len(conf.aggregators))",
  "table/table.go:Table.Snapshot make make([]*matcher.Matcher, len(conf.blacklist))",
  "table/table.go:Table.Snapshot make make([]rewriter.RW, len(conf.rewriters))",
  "table/table.go:Table.Snapshot make make([]route.Snapshot, len(conf.routes))",
  "telnet/telnet.go:handleApiRequest slice buf[:n]",
  "validate/validate.go:LevelLegacy.UnmarshalText index levels[string(text)]",
  "validate/validate.go:LevelM20.UnmarshalText index levels[string(text)]"]

theorem inventory_ok : panicSites = examined := rfl

end Crng.Tie.C14
