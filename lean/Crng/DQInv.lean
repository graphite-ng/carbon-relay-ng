import Crng.DQLemmas
/-! The consistency invariant of the disk queue: a chain of records from the read to the write position, each present in
    its segment file. -/
namespace Crng.DQ

def Rec.stop (r : Rec) : Nat := r.off + 4 + r.msg.length
def Rec.next (cfg : Cfg) (r : Rec) : Nat × Nat :=
  if r.stop > cfg.maxBytes then (r.file + 1, 0) else (r.file, r.stop)

/-- positions compare lexicographically (file, offset) -/
def Le (a b : Nat × Nat) : Prop := a.1 < b.1 ∨ (a.1 = b.1 ∧ a.2 ≤ b.2)
def Lt (a b : Nat × Nat) : Prop := a.1 < b.1 ∨ (a.1 = b.1 ∧ a.2 < b.2)

theorem Le.refl (a : Nat × Nat) : Le a a := Or.inr ⟨rfl, Nat.le_refl _⟩
theorem Le.trans {a b c : Nat × Nat} (h1 : Le a b) (h2 : Le b c) : Le a c := by
  unfold Le at *; omega
theorem Lt.trans_le {a b c : Nat × Nat} (h1 : Lt a b) (h2 : Le b c) : Lt a c := by
  unfold Le Lt at *; omega
theorem Lt.le {a b : Nat × Nat} (h : Lt a b) : Le a b := by
  unfold Le Lt at *; omega
theorem Le.fst_le {a b : Nat × Nat} (h : Le a b) : a.1 ≤ b.1 := by
  unfold Le at h; omega

theorem Rec.next_roll {cfg : Cfg} {r : Rec} (h : r.stop > cfg.maxBytes) : r.next cfg = (r.file + 1, 0) := if_pos h
theorem Rec.next_fit {cfg : Cfg} {r : Rec} (h : ¬ r.stop > cfg.maxBytes) : r.next cfg = (r.file, r.stop) := if_neg h

theorem Rec.lt_next (cfg : Cfg) (r : Rec) : Lt (r.file, r.off) (r.next cfg) := by
  by_cases h : r.stop > cfg.maxBytes
  · rw [Rec.next_roll h]; exact Or.inl (Nat.lt_succ_self _)
  · rw [Rec.next_fit h]; exact Or.inr ⟨rfl, by unfold Rec.stop; omega⟩

/-- the records lie one after another from `s` to `e`, rolling files exactly like the writer -/
def Chain (cfg : Cfg) : Nat × Nat → List Rec → Nat × Nat → Prop
  | s, [], e => s = e
  | s, r :: rs, e => (r.file, r.off) = s ∧ Chain cfg (r.next cfg) rs e

theorem chain_le {cfg : Cfg} : ∀ {rs : List Rec} {s e : Nat × Nat}, Chain cfg s rs e → Le s e := by
  intro rs
  induction rs with
  | nil => intro s e h; exact h ▸ Le.refl _
  | cons r rs ih => intro s e h; exact ((h.1 ▸ Rec.lt_next cfg r).trans_le (ih h.2)).le

theorem chain_lt {cfg : Cfg} {r : Rec} {rs : List Rec} {s e : Nat × Nat} (h : Chain cfg s (r :: rs) e) : Lt s e :=
  (h.1 ▸ Rec.lt_next cfg r).trans_le (chain_le h.2)

theorem chain_mem {cfg : Cfg} : ∀ {rs : List Rec} {s e : Nat × Nat}, Chain cfg s rs e →
    ∀ r ∈ rs, Le s (r.file, r.off) ∧ Le (r.next cfg) e := by
  intro rs
  induction rs with
  | nil => intro s e _ r hr; cases hr
  | cons r0 rs ih =>
    intro s e h r hr
    rcases List.mem_cons.mp hr with rfl | hr'
    · exact ⟨h.1 ▸ Le.refl _, chain_le h.2⟩
    · exact ⟨(h.1 ▸ (Rec.lt_next cfg r0).le).trans (ih h.2 r hr').1, (ih h.2 r hr').2⟩

/-- every record of a chain lies between its ends; in the last file it stops before the end offset -/
theorem chain_bound {cfg : Cfg} {rs : List Rec} {s e : Nat × Nat} (h : Chain cfg s rs e) :
    ∀ r ∈ rs, s.1 ≤ r.file ∧ (r.file < e.1 ∨ (r.file = e.1 ∧ r.stop ≤ e.2)) := by
  intro r hr
  obtain ⟨a, b⟩ := chain_mem h r hr
  refine ⟨a.fst_le, ?_⟩
  by_cases hroll : r.stop > cfg.maxBytes
  · rw [Rec.next_roll hroll] at b; exact Or.inl b.fst_le
  · rw [Rec.next_fit hroll] at b; exact b

theorem chain_append {cfg : Cfg} : ∀ {rs : List Rec} {s e : Nat × Nat} (r : Rec), Chain cfg s rs e →
    (r.file, r.off) = e → Chain cfg s (rs ++ [r]) (r.next cfg) := by
  intro rs
  induction rs with
  | nil => intro s e r h hr; exact ⟨hr.trans h.symm, rfl⟩
  | cons r0 rs ih => intro s e r h hr; exact ⟨h.1, ih r h.2 hr⟩

/-- the bytes of record `r` are in its segment file at its offset -/
def OnDisk (d : Disk) (r : Rec) : Prop :=
  ∃ c rest, segGet d r.file = some c ∧ c.drop r.off = encode r.msg ++ rest

theorem OnDisk.of_segs {d d' : Disk} {r : Rec} (hr : OnDisk d r) (h : d'.segs = d.segs) : OnDisk d' r := by
  obtain ⟨c, rest, h1, h2⟩ := hr
  exact ⟨c, rest, by rw [segGet_of_segs d d' h]; exact h1, h2⟩

theorem OnDisk.segRemove {d : Disk} {r : Rec} {n : Nat} (h : OnDisk d r) (hn : r.file ≠ n) : OnDisk (segRemove d n) r := by
  obtain ⟨c, rest, h1, h2⟩ := h
  exact ⟨c, rest, by rw [segGet_segRemove_other _ _ _ hn]; exact h1, h2⟩

structure Inv (cfg : Cfg) (s : St) (recs : List Rec) : Prop where
  chain : Chain cfg (s.mem.rfn, s.mem.rpos) recs (s.mem.wfn, s.mem.wpos)
  ondisk : ∀ r ∈ recs, OnDisk s.disk r
  small : ∀ r ∈ recs, r.msg.length < 2147483648
  ahead : (s.mem.nrfn = s.mem.rfn ∧ s.mem.nrpos = s.mem.rpos) ∨
          (∃ r rs, recs = r :: rs ∧ s.mem.dataRead = r.msg ∧ (s.mem.nrfn, s.mem.nrpos) = r.next cfg)

def DepthOK (s : St) (recs : List Rec) : Prop := s.mem.depth = recs.length

/-- a message is loaded for the consumer whenever there is one -/
def Ready (cfg : Cfg) (s : St) (recs : List Rec) : Prop :=
  ∀ r rs, recs = r :: rs → s.mem.dataRead = r.msg ∧ (s.mem.nrfn, s.mem.nrpos) = r.next cfg

theorem Inv.congr {cfg : Cfg} {s s' : St} {recs : List Rec} (h : Inv cfg s recs) (e : s'.core = s.core) : Inv cfg s' recs := by
  simp only [St.core, Prod.mk.injEq] at e
  obtain ⟨⟨e1, e2⟩, ⟨e3, e4⟩, ⟨e6, e7⟩, e8, e9⟩ := e
  exact { chain := by rw [e1, e2, e3, e4]; exact h.chain
          ondisk := fun r hr => (h.ondisk r hr).of_segs e9
          small := h.small
          ahead := by rw [e1, e2, e6, e7, e8]; exact h.ahead }

theorem Inv.hasData_nil {cfg : Cfg} {s : St} (h : Inv cfg s []) : hasData s.mem = false := by
  have := h.chain
  simp [Chain] at this
  simp [hasData, this.1, this.2]

theorem Inv.hasData_cons {cfg : Cfg} {s : St} {r : Rec} {rs : List Rec} (h : Inv cfg s (r :: rs)) : hasData s.mem = true := by
  have := chain_lt h.chain
  unfold Lt at this
  simp [hasData]
  omega

theorem Inv.head_pos {cfg : Cfg} {s : St} {r : Rec} {rs : List Rec} (h : Inv cfg s (r :: rs)) :
    r.file = s.mem.rfn ∧ r.off = s.mem.rpos :=
  ⟨congrArg Prod.fst h.chain.1, congrArg Prod.snd h.chain.1⟩

end Crng.DQ
