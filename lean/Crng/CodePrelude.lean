import Crng.Ring
import Crng.Rewriter
/-! Prelude of the regenerated code layer (`Crng.Gen.Code`, written by `extract/translate.go` from /repo's Go source on
every run). It fixes, by hand:

* the value domain the translator maps Go types to (`[]byte`, `string` ↦ `Bytes`; every Go integer type ↦ `Int`,
  unbounded — wrap-around is *not* modelled in this layer; `float64` ↦ its bit pattern; `error`, pointers ↦ `Option`);
* the library functions the translated functions call (`bytes.HasPrefix`, `bytes.Contains`, `bytes.IndexByte`,
  `bytes.Fields`, `bytes.Join`, `copy`, `make`, `sort.Search`, indexing and slicing), with Go's semantics on the values the
  guards of the translated code allow (an out-of-range index yields the type's default here; index safety is C14's topic);
* the *interfaces* of the objects a translated function calls into but does not contain (a compiled regexp, a route, an
  aggregator, …) as records of functions, and the Go structs whose fields the translated code reads, field for field;
* effects: a call that changes something outside the function (a counter, a channel send, a hand-off to another
  component) is an event in a trace; a translated function with effects returns `Res α = trace × value`.

If /repo's code starts to use a field, a library function or a method that is not declared here, the regenerated module
no longer elaborates and the check reports the obligation as failed: the declaration below is the complete list of what
the translated functions may depend on. -/
set_option autoImplicit false
namespace Crng.Code

abbrev Bytes := List UInt8
/-- bit pattern of a float64 that is only passed along -/
abbrev F64 := UInt64
/-- Go `error`: nil or a message -/
abbrev Err := Option String

inductive Ev where
  /-- `name` = the callee as written (`table.numIn.Inc`, `route.Dispatch`, `dest.In<-`), `recv` = the `id` of the object when
  the receiver is a variable ranging over objects (0 otherwise), `args` = the arguments rendered as bytes -/
  | call (name : String) (recv : Nat) (args : List Bytes)
  deriving DecidableEq, Repr

abbrev Res (α : Type) := List Ev × α
@[inline] def Res.pure {α} (a : α) : Res α := ([], a)
@[inline] def Res.bind {α β} (r : Res α) (f : α → Res β) : Res β := ((r.1 ++ (f r.2).1), (f r.2).2)
@[inline] def emit {α} (e : Ev) (r : Res α) : Res α := (e :: r.1, r.2)

@[simp] theorem Res.bind_pure {α β} (a : α) (f : α → Res β) : Res.bind (Res.pure a) f = f a := by
  simp [Res.bind, Res.pure]
/-- a call whose result is not used -/
theorem Res.bind_const {α β} (r : Res α) (b : β) : (Res.bind r fun _ => Res.pure b) = (r.1, b) := by
  simp [Res.bind, Res.pure]
theorem Res.bind_fst {α β} (r : Res α) (f : α → Res β) : (Res.bind r f).1 = r.1 ++ (f r.2).1 := rfl
@[simp] theorem emit_fst {α} (e : Ev) (r : Res α) : (emit e r).1 = e :: r.1 := rfl
@[simp] theorem emit_snd {α} (e : Ev) (r : Res α) : (emit e r).2 = r.2 := rfl

/-- two guards in front of the same continuation -/
theorem ite_ite_same {α} (a b : Bool) (x y : α) :
    (if a = true then (if b = true then x else y) else y) = if (a && b) = true then x else y := by
  cases a <;> cases b <;> rfl

class ToArg (α : Type) where arg : α → Bytes
export ToArg (arg)
instance : ToArg Bytes := ⟨id⟩
def digits (n : Nat) : Bytes := (Nat.toDigits 10 n).map fun c => c.toNat.toUInt8
instance : ToArg Int := ⟨fun i => if i < 0 then 45 :: digits i.natAbs else digits i.natAbs⟩
instance : ToArg Nat := ⟨digits⟩
instance : ToArg Bool := ⟨fun b => if b then [1] else [0]⟩
instance : ToArg Err := ⟨fun e => match e with | none => [] | some s => 1 :: s.toUTF8.toList⟩
instance : ToArg F64 := ⟨fun f => digits f.toNat⟩
instance {α β} [ToArg α] [ToArg β] : ToArg (α × β) := ⟨fun p => arg p.1 ++ 254 :: arg p.2⟩
instance : ToArg (List Bytes) := ⟨fun l => l.foldr (fun a acc => a ++ 255 :: acc) []⟩

/-! ### loops: `for _, x := range xs { body }` with `return`, `break`, `continue` and assignments to outer variables -/
inductive Step (σ ρ : Type) where
  | next (s : σ) | brk (s : σ) | ret (r : ρ)
inductive Out (σ ρ : Type) where
  | done (s : σ) | ret (r : ρ)

/-- effectful loop -/
def forRange {α σ ρ : Type} (body : α → σ → Res (Step σ ρ)) : List α → σ → Res (Out σ ρ)
  | [], s => Res.pure (.done s)
  | x :: xs, s => Res.bind (body x s) fun
    | .next s' => forRange body xs s'
    | .brk s' => Res.pure (.done s')
    | .ret r => Res.pure (.ret r)

/-- pure loop -/
def forRangeP {α σ ρ : Type} (body : α → σ → Step σ ρ) : List α → σ → Out σ ρ
  | [], s => .done s
  | x :: xs, s => match body x s with
    | .next s' => forRangeP body xs s'
    | .brk s' => .done s'
    | .ret r => .ret r

/-- `for cond { body }`, effect-free: at most `fuel` iterations (a translated function declares a bound; the tie theorems
show that the loop ends by its condition or a `break`/`return` before the fuel runs out) -/
def whileP {σ ρ : Type} : Nat → (σ → Bool) → (σ → Step σ ρ) → σ → Out σ ρ
  | 0, _, _, s => .done s
  | fuel + 1, cond, body, s =>
    if cond s then
      match body s with
      | .next s' => whileP fuel cond body s'
      | .brk s' => .done s'
      | .ret r => .ret r
    else .done s

/-- `for cond { body }` with effects -/
def whileR {σ ρ : Type} : Nat → (σ → Bool) → (σ → Res (Step σ ρ)) → σ → Res (Out σ ρ)
  | 0, _, _, s => Res.pure (.done s)
  | fuel + 1, cond, body, s =>
    if cond s then
      Res.bind (body s) fun
        | .next s' => whileR fuel cond body s'
        | .brk s' => Res.pure (.done s')
        | .ret r => Res.pure (.ret r)
    else Res.pure (.done s)

theorem whileP_done {σ ρ : Type} {c : σ → Bool} {b : σ → Step σ ρ} {s : σ} (h : c s = false) (n : Nat) :
    whileP n c b s = .done s := by
  cases n <;> simp [whileP, h]

theorem whileR_pure {σ ρ : Type} (c c' : σ → Bool) (b : σ → Res (Step σ ρ)) (b' : σ → Step σ ρ)
    (hc : ∀ s, c s = c' s) (hb : ∀ s, b s = Res.pure (b' s)) :
    ∀ (n : Nat) (s : σ), whileR n c b s = Res.pure (whileP n c' b' s) := by
  intro n
  induction n with
  | zero => intro s; rfl
  | succ n ih =>
    intro s
    simp only [whileR, whileP, hc, hb]
    split
    · cases hbs : b' s <;> simp [Res.bind_pure, ih]
    · rfl

namespace Lib
def len {α} (l : List α) : Int := l.length
def notNil {α} (o : Option α) : Bool := o.isSome
def isNil {α} (o : Option α) : Bool := o.isNone
def bytes_HasPrefix (s p : Bytes) : Bool := s.take p.length == p
def bytes_Contains (s sub : Bytes) : Bool :=
  (List.range (s.length + 1)).any fun i => (s.drop i).take sub.length == sub
def bytes_IndexByte : Bytes → UInt8 → Int
  | [], _ => -1
  | b :: bs, c => if b == c then 0 else if bytes_IndexByte bs c < 0 then -1 else bytes_IndexByte bs c + 1
def isSpace (c : UInt8) : Bool := c == 32 || c == 9 || c == 10 || c == 11 || c == 12 || c == 13 || c == 0x85 || c == 0xA0
/-- `bytes.Fields` on input whose non-ASCII bytes are not Unicode spaces in UTF-8 form is splitting around ASCII white
space; the table hands it a line that `ValidatePacket` accepted, and the byte-exact version (with U+0085, U+00A0, U+1680,
U+2000.. in UTF-8) is `Crng.Val.fields`, validated against the real function. Here: ASCII white space. -/
def bytes_Fields (s : Bytes) : List Bytes :=
  let rec go : Bytes → Bytes → List Bytes
    | [], cur => if cur.isEmpty then [] else [cur.reverse]
    | c :: cs, cur =>
      if c == 32 || (9 ≤ c && c ≤ 13) then (if cur.isEmpty then go cs [] else cur.reverse :: go cs [])
      else go cs (c :: cur)
  go s []
def bytes_Join (parts : List Bytes) (sep : Bytes) : Bytes :=
  match parts with
  | [] => []
  | p :: ps => ps.foldl (fun acc q => acc ++ sep ++ q) p
def makeBytes (n : Int) : Bytes := List.replicate n.toNat 0
/-- `copy(dst, src)`: the first `min(len dst, len src)` elements of `dst` are overwritten -/
def copy {α} (dst src : List α) : List α := src.take dst.length ++ dst.drop src.length
def idx {α} [Inhabited α] (l : List α) (i : Int) : α := if i < 0 then default else l.getD i.toNat default
def set {α} (l : List α) (i : Int) (v : α) : List α := if i < 0 then l else l.set i.toNat v
def sliceTo {α} (l : List α) (hi : Int) : List α := l.take hi.toNat
def sliceFrom {α} (l : List α) (lo : Int) : List α := l.drop lo.toNat
def slice {α} (l : List α) (lo hi : Int) : List α := (l.take hi.toNat).drop lo.toNat
def enum {α} (l : List α) : List (Int × α) := ((List.range l.length).zip l).map fun p => ((p.1 : Int), p.2)
def goMod (a b : Int) : Int := Int.tmod a b
def goDiv (a b : Int) : Int := Int.tdiv a b
/-- `sort.Search(n, f)`: Go's binary search (`Crng.Ring.bsearch` is the statement-for-statement model, with its
specification theorem `bsearch_spec`) -/
def sort_Search (n : Int) (f : Int → Bool) : Int :=
  (Crng.Ring.bsearch (fun k => f k) n.toNat 0 n.toNat : Nat)
/-- `bytes.Replace(s, old, new, n)` for non-empty `old` (`n < 0`: all); `Crng.Rw.replaceN` is the model C04's theorems
are about -/
def bytes_Replace (s old new : Bytes) (n : Int) : Bytes :=
  Crng.Rw.replaceN old new (s.length + 1) (if n < 0 then none else some n.toNat) s
/-- `strings.SplitN(s, sep, 2)` for a one-byte separator: cut at the first occurrence (other `n` are not modelled) -/
def strings_SplitN (s sep : Bytes) (_n : Int) : List Bytes :=
  match sep with
  | [c] => if s.contains c then [s.takeWhile (· != c), (s.dropWhile (· != c)).drop 1] else [s]
  | _ => [s]
/-- `strings.Split(s, sep)` / `strings.Count(s, sep)` / `strings.Join(parts, sep)` for a one-byte separator -/
def strings_Split (s sep : Bytes) : List Bytes :=
  match sep with
  | [c] =>
    let rec go : Bytes → Bytes → List Bytes
      | [], cur => [cur.reverse]
      | x :: t, cur => if x == c then cur.reverse :: go t [] else go t (x :: cur)
    go s []
  | _ => [s]
def strings_Count (s sep : Bytes) : Int :=
  match sep with
  | [c] => (s.filter (· == c)).length
  | _ => 0
def strings_Join (parts : List Bytes) (sep : Bytes) : Bytes := bytes_Join parts sep
/-- a Go `map[K]V` with integer keys and values: a missing key reads as the zero value -/
def mapGet (m : List (Int × Int)) (k : Int) : Int := ((m.find? (·.1 == k)).map (·.2)).getD 0
def mapSet (m : List (Int × Int)) (k v : Int) : List (Int × Int) := (k, v) :: m.filter (·.1 != k)
@[simp] theorem copy_make (b : Bytes) : copy (makeBytes (len b)) b = b := by
  simp [copy, makeBytes, len]
theorem len_pos {α} (l : List α) : decide (len l > 0) = decide (l.length > 0) := by simp [len]
theorem len_zero {α} (l : List α) : (len l == 0) = (l.length == 0) := by cases l <;> rfl
theorem len_pos_of_ne_nil {α} {l : List α} (h : l ≠ []) : len l > 0 := by
  simpa [len] using List.length_pos_iff.mpr h
theorem notNil_none {α} : notNil (none : Option α) = false := rfl
theorem notNil_some {α} (a : α) : notNil (some a) = true := rfl
/-- the bounds check of the `Del*` functions, on an index that is not negative -/
theorem ge_len {α} (l : List α) (i : Nat) : decide ((i : Int) ≥ len l) = decide (i ≥ l.length) := by simp [len]
theorem idx_zero {α} [Inhabited α] (a : α) (l : List α) : idx (a :: l) 0 = a := rfl
theorem idx_one {α} [Inhabited α] (a b : α) (l : List α) : idx (a :: b :: l) 1 = b := rfl
theorem idx_of_lt {α} [Inhabited α] (l : List α) (i : Nat) (h : i < l.length) : idx l (i : Int) = l[i] := by
  unfold idx
  rw [if_neg (by omega), Int.toNat_natCast, List.getD_eq_getElem?_getD, List.getElem?_eq_getElem h, Option.getD_some]
theorem enum_map_snd {α} (l : List α) : (enum l).map (·.2) = l := by
  simp only [enum, List.map_map]
  exact List.map_snd_zip (by simp)
theorem enum_nonneg {α} (l : List α) : ∀ p ∈ enum l, 0 ≤ p.1 := by
  intro p hp
  simp only [enum, List.mem_map] at hp
  obtain ⟨q, _, rfl⟩ := hp
  exact Int.natCast_nonneg _
theorem mapGet_set_same (m : List (Int × Int)) (k v : Int) : mapGet (mapSet m k v) k = v := by simp [mapGet, mapSet]
theorem mapGet_set_other (m : List (Int × Int)) (k k' v : Int) (h : k' ≠ k) : mapGet (mapSet m k v) k' = mapGet m k' := by
  rw [mapGet, mapSet, List.find?_cons, beq_false_of_ne (Ne.symm h), Crng.Assoc.find?_filter_ne m h, mapGet]
theorem cut_at_byte (l : Bytes) (c : UInt8) :
    (if bytes_IndexByte l c ≥ 0 then sliceTo l (bytes_IndexByte l c) else l) = l.takeWhile (· != c) := by
  induction l with
  | nil => rfl
  | cons b bs ih =>
    rw [List.takeWhile_cons, ← ih, bytes_IndexByte]
    cases hb : b == c
    · by_cases hn : bytes_IndexByte bs c < 0
      · simp [bne, hb, hn, show ¬ bytes_IndexByte bs c ≥ 0 by omega]
      · have h2 : (bytes_IndexByte bs c + 1).toNat = (bytes_IndexByte bs c).toNat + 1 := by omega
        simp [bne, hb, hn, h2, sliceTo, show bytes_IndexByte bs c ≥ 0 by omega, show bytes_IndexByte bs c + 1 ≥ 0 by omega]
    · simp [bne, hb, sliceTo]
/-- `strings.SplitN(a + c + b, c, n)` cuts at the first `c` when `a` has none -/
theorem strings_SplitN_cut (a b : Bytes) (c : UInt8) (n : Int) (h : ¬ a.contains c) : strings_SplitN (a ++ c :: b) [c] n = [a, b] := by
  have hp : ∀ x ∈ a, (x != c) = true := fun x hx => by
    simp only [bne_iff_ne, ne_eq]; rintro rfl; exact h (List.contains_iff_mem.mpr hx)
  simp [strings_SplitN, List.takeWhile_append_of_pos hp, List.dropWhile_append_of_pos hp]
end Lib

/-! ### interfaces of the objects translated code calls into -/
abbrev MapII := List (Int × Int)
/-- a `hash.Hash64` (fnv-1a in validate/ordered.go): what was written since the last `Reset`, and the digest function -/
structure Hasher64 where
  sum : Bytes → Int
  data : Bytes
def Hasher64.Write (h : Hasher64) (b : Bytes) : Hasher64 := { h with data := h.data ++ b }
def Hasher64.Sum64 (h : Hasher64) : Int := h.sum h.data
def Hasher64.Reset (h : Hasher64) : Hasher64 := { h with data := [] }
/-- validate/ordered.go `errNotNewer` -/
def errNotNewer : Err := some "point is not newer than previous"

/-- `*regexp.Regexp` as far as the matcher and the rewriter use it -/
structure RegexpI where
  Match : Bytes → Bool
  /-- `ReplaceAll(src, repl)` -/
  ReplaceAll : Bytes → Bytes → Bytes
  /-- `FindSubmatchIndex(key)`: nil or the index list -/
  FindSubmatchIndex : Bytes → Option (List Int)
  /-- `Expand(dst, template, src, match)` -/
  Expand : Bytes → Bytes → Bytes → Option (List Int) → Bytes
instance : Inhabited RegexpI := ⟨⟨fun _ => false, fun s _ => s, fun _ => none, fun _ _ _ _ => []⟩⟩
/-- a method called through a nil-able pointer: the translated code guards these calls with `!= nil`; without the
guard Go panics, here the type's default answers (C14 is about the panics) -/
def _root_.Option.Match (r : Option RegexpI) (s : Bytes) : Bool := match r with | some r => r.Match s | none => false
def _root_.Option.FindSubmatchIndex (r : Option RegexpI) (s : Bytes) : Option (List Int) :=
  match r with | some r => r.FindSubmatchIndex s | none => none
def _root_.Option.Expand (r : Option RegexpI) (dst t s : Bytes) (m : Option (List Int)) : Bytes :=
  match r with | some r => r.Expand dst t s m | none => []

def _root_.Option.ReplaceAll (r : Option RegexpI) (s repl : Bytes) : Bytes :=
  match r with | some r => r.ReplaceAll s repl | none => s

/-- destination/keepsafe.go `type keepSafe struct` (the two generations) -/
structure keepSafe where
  initialCap : Int
  safeOld : List Bytes
  safeRecent : List Bytes

/-- rewriter/rewriter.go `type RW struct` -/
structure RW where
  Old : Bytes
  New : Bytes
  Not : Bytes
  Max : Int
  old : Bytes
  new : Bytes
  not : Bytes
  re : Option RegexpI
  notRe : Option RegexpI
  deriving Inhabited
instance : ToArg RW := ⟨fun r => arg (r.Old, r.New, r.Not, r.Max)⟩
/-- rewriter/rewriter.go error values -/
def errEmptyOld : Err := some "Rewriter must have non-empty 'old' specification"
def errMaxTooLow : Err := some "max must be >= -1. use -1 to mean no restriction"
def errInvalidRegexp : Err := some "Invalid rewriter regular expression"
def errInvalidNotRegexp : Err := some "Invalid rewriter 'not' regular expression"
def errInvalidRegexpMax : Err := some "Regular expression rewriters require max to be -1"

/-- matcher/matcher.go `type Matcher struct` (the fields `Match`, `PreMatch`, `MatchRegexAndExpand` read) -/
structure Matcher where
  prefix_ : Bytes
  notPrefix : Bytes
  sub : Bytes
  notSub : Bytes
  regex : Option RegexpI
  notRegex : Option RegexpI
  prefixFromRegex : Bytes
  prefixFromNotRegex : Bytes

/-- aggregator/aggregator.go `type Aggregator struct`, the fields `AddMaybe` reads; `matchWithCache` (the per-aggregator
cache in front of `MatchRegexAndExpand`, stateful) is a parameter here: `Crng.AC.cache_transparent` is the theorem
that it answers like `MatchRegexAndExpand` for every cache history -/
structure Aggregator where
  id : Nat
  Matcher : Matcher
  DropRaw : Bool
  matchWithCache : Bytes → Bytes × Bool

/-- destination/destination.go `type Destination struct`: the filter (`lockMatcher` guards it) -/
structure Destination where
  Matcher : Matcher
/-- `*destination.Destination` seen from a route -/
structure DestI where
  id : Nat
  Match : Bytes → Bool
  Shutdown : Res Unit := ([], ())
  deriving Inhabited
/-- route/route.go `baseConfig` / `baseRoute`: the route's filter and destinations inside its published config -/
structure BaseConfig where
  Matcher : Matcher
  Dests : List DestI := []
structure baseRoute where
  config : BaseConfig

/-- a `matcher.Matcher` seen from the table (blacklist entry) -/
structure MatcherI where
  id : Nat
  Match : Bytes → Bool
/-- `rewriter.RW` seen from the table -/
structure RewriterI where
  Do : Bytes → Bytes
/-- `*aggregator.Aggregator` seen from the table: `AddMaybe` returns dropRaw (its own effect, the hand-off into the
aggregator's queue, is the event the translator emits at the call) -/
structure AggregatorI where
  id : Nat
  AddMaybe : List Bytes → F64 → Int → Res Bool
  Shutdown : Res Unit
  deriving Inhabited
/-- `route.Route` seen from the table -/
structure RouteI where
  id : Nat
  Key : Bytes
  Match : Bytes → Bool
  Dispatch : Bytes → Res Unit
  Shutdown : Res Err
  deriving Inhabited
structure LevelI where
  Level : Int
/-- table/table.go `type TableConfig struct` -/
structure TableConfig where
  Validation_level_legacy : LevelI
  Validation_level_m20 : LevelI
  Validate_order : Bool
  blacklist : List MatcherI
  rewriters : List RewriterI
  aggregators : List AggregatorI
  routes : List RouteI
structure Table where
  config : TableConfig
structure RouteConfig where
  Dests : List DestI
structure SendAllMatch where
  config : RouteConfig
structure SendFirstMatch where
  config : RouteConfig
/-- route/consistent_hashing.go `type hashRingEntry struct` / `type ConsistentHasher struct` -/
structure HashRingEntry where
  Position : Int
  Hostname : Bytes
  Instance : Bytes
  DestinationIndex : Int
  deriving Inhabited
structure ConsistentHasher where
  Ring : List HashRingEntry
/-- route/route.go `consistentHashingConfig` -/
structure CHConfig where
  Dests : List DestI
  Hasher : ConsistentHasher
structure ConsistentHashing where
  config : CHConfig


/-! ### the admin-command scanner as the readers see it (imperatives/imperatives.go) -/
/-- the token kinds of imperatives.go's `const` block, plus toki's `EOF` and `Error` -/
inductive Token where
  | addBlack | addAgg | addRouteSendAllMatch | addRouteSendFirstMatch | addRouteConsistentHashing | addRouteGrafanaNet | addRouteKafkaMdm | addRoutePubSub | addDest | addRewriter | delRoute | modDest | modRoute | str | sep | avgFn | countFn | deltaFn | deriveFn | lastFn | maxFn | minFn | stdevFn | sumFn | num | optPrefix | optNotPrefix | optAddr | optCache | optDropRaw | optBlocking | optSub | optNotSub | optRegex | optNotRegex | optFlush | optReconn | optConnBufSize | optIoBufSize | optSpoolBufSize | optSpoolMaxBytesPerFile | optSpoolSyncEvery | optSpoolSyncPeriod | optSpoolSleep | optTLSEnabled | optTLSSkipVerify | optTLSClientCert | optTLSClientKey | optSASLEnabled | optSASLMechanism | optSASLUsername | optSASLPassword | optUnspoolSleep | optPickle | optSpool | optTrue | optFalse | optBufSize | optFlushMaxNum | optFlushMaxWait | optTimeout | optSSLVerify | optErrBackoffMin | optErrBackoffFactor | word | optConcurrency | optOrgId | optPubSubProject | optPubSubTopic | optPubSubFormat | optPubSubCodec | optPubSubFlushMaxSize | EOF | Error
  deriving DecidableEq, Repr, Inhabited
export Token (addBlack addAgg addRouteSendAllMatch addRouteSendFirstMatch addRouteConsistentHashing addRouteGrafanaNet addRouteKafkaMdm addRoutePubSub addDest addRewriter delRoute modDest modRoute str sep avgFn countFn deltaFn deriveFn lastFn maxFn minFn stdevFn sumFn num optPrefix optNotPrefix optAddr optCache optDropRaw optBlocking optSub optNotSub optRegex optNotRegex optFlush optReconn optConnBufSize optIoBufSize optSpoolBufSize optSpoolMaxBytesPerFile optSpoolSyncEvery optSpoolSyncPeriod optSpoolSleep optTLSEnabled optTLSSkipVerify optTLSClientCert optTLSClientKey optSASLEnabled optSASLMechanism optSASLUsername optSASLPassword optUnspoolSleep optPickle optSpool optTrue optFalse optBufSize optFlushMaxNum optFlushMaxWait optTimeout optSSLVerify optErrBackoffMin optErrBackoffFactor word optConcurrency optOrgId optPubSubProject optPubSubTopic optPubSubFormat optPubSubCodec optPubSubFlushMaxSize)
def toki_EOF : Token := Token.EOF
def toki_Error : Token := Token.Error
/-- a scanned token: kind and text -/
structure TokV where
  Token : Token
  Value : Bytes
  deriving Inhabited
/-- `*toki.Scanner` after tokenisation: the tokens still to come (`Crng.Tk.scan` is the byte-level model of the tokeniser) -/
structure Scanner where
  toks : List TokV
/-- `Next()`: the next token; at the end of the input `EOF`, again and again -/
def Scanner.Next (s : Scanner) : TokV × Scanner :=
  match s.toks with
  | [] => (⟨Token.EOF, []⟩, s)
  | t :: r => (t, ⟨r⟩)
def math_MaxInt32 : Int := 2147483647
/-- route/grafananet.go `type GrafanaNetConfig struct`, the fields the constructor validates -/
structure GrafanaNetConfig where
  Concurrency : Int
  BufSize : Int
  FlushMaxNum : Int
  FlushMaxWait : Int
def time_Second : Int := 1000000000
def time_Millisecond : Int := 1000000
def time_Microsecond : Int := 1000
instance : Add Bytes := ⟨List.append⟩
/-- `table.Interface` as the readers and the TOML `Init*` functions use it -/
structure TableI where
  GetSpoolDir : Bytes
  GetIn : Unit := ()
  id : Nat := 0
/-- the six filter options handed to `matcher.New` -/
structure MatcherArgs where
  prefix_ : Bytes
  notPrefix : Bytes
  sub : Bytes
  notSub : Bytes
  regex : Bytes
  notRegex : Bytes
  deriving DecidableEq, Inhabited
/-- the arguments of `destination.New`, in its parameter order -/
structure DestArgs where
  routeName : Bytes
  matcher : MatcherArgs
  addr : Bytes
  spoolDir : Bytes
  spool : Bool
  pickle : Bool
  periodFlush : Int
  periodReConn : Int
  connBufSize : Int
  ioBufSize : Int
  spoolBufSize : Int
  spoolMaxBytesPerFile : Int
  spoolSyncEvery : Int
  spoolSyncPeriod : Int
  spoolSleep : Int
  unspoolSleep : Int
  deriving DecidableEq, Inhabited
abbrev DestP := Option DestArgs
/-- the arguments of `aggregator.New`, in its parameter order (the output channel aside) -/
structure AggArgs where
  fn : Bytes
  matcher : MatcherArgs
  outFmt : Bytes
  cache : Bool
  interval : Int
  wait : Int
  dropRaw : Bool
  deriving DecidableEq, Inhabited
instance : ToArg MatcherArgs := ⟨fun m => arg [m.prefix_, m.notPrefix, m.sub, m.notSub, m.regex, m.notRegex]⟩
instance : ToArg AggArgs := ⟨fun a => arg (a.fn, a.matcher, a.outFmt, a.cache, a.interval, a.wait, a.dropRaw)⟩
/-- cfg/cfg.go `type Aggregation struct`, `type Rewriter struct`, and the parts of `type Config struct` the `Init*`
functions read -/
structure AggregationCfg where
  Function : Bytes
  Regex : Bytes
  NotRegex : Bytes
  Prefix : Bytes
  NotPrefix : Bytes
  Substr : Bytes
  Sub : Bytes
  NotSub : Bytes
  Format : Bytes
  Cache : Bool
  Interval : Int
  Wait : Int
  DropRaw : Bool
structure RewriterCfg where
  Old : Bytes
  New : Bytes
  Not : Bytes
  Max : Int
structure Config where
  Aggregation : List AggregationCfg
  BlackList : List Bytes
  Rewriter : List RewriterCfg
/-- imperatives.go `errFmtAddBlack`, `errFmtAddRewriter` -/
def errFmtAddBlack : Err := some "addBlack <prefix|sub|regex> <pattern>"
def errFmtAddRewriter : Err := some "addRewriter <old> <new> <max>"
/-- imperatives.go `errFmtAddAgg` -/
def errFmtAddAgg : Err := some "addAgg <avg|count|delta|derive|last|max|min|stdev|sum> [prefix/sub/regex=,..] <fmt> <interval> <wait> [cache=true/false] [dropRaw=true/false]"
/-- imperatives.go `errFmtAddRoute` -/
def errFmtAddRoute : Err := some "addRoute <type> <key> [prefix/sub/regex=,..]  <dest>  [<dest>[...]]"

/-! ### what og-rek hands to input/pickle.go -/
/-- a decoded pickle value, tagged with the Go dynamic type the handler switches on (all sized integer types are `int`, both
float widths `float`; anything else — None, bool, dict, … — is `other`) -/
inductive PyVal where
  | str (b : Bytes)
  | int (z : Int)
  | big (z : Int)
  | float (bits : F64)
  | tuple (l : List PyVal)
  | list (l : List PyVal)
  | other
  deriving Inhabited
namespace Lib
/-- `v, ok := x.(string)` etc. -/
def asString : PyVal → Bytes × Bool | .str b => (b, true) | _ => ([], false)
def asTuple : PyVal → List PyVal × Bool | .tuple l => (l, true) | _ => ([], false)
def asList : PyVal → List PyVal × Bool | .list l => (l, true) | _ => ([], false)
end Lib
/-- `fmt.Sprintf("%d" / "%f" / "%.0f", v)` on a decoded value: Go's formatting is external; `Crng.FloatFmt` is its validated model -/
structure Fmt where
  d : PyVal → Bytes
  f : PyVal → Bytes
  f0 : PyVal → Bytes
/-- `input.Dispatcher` -/
structure DispatcherI where
  Dispatch : Bytes → Res Unit
  id : Nat := 0
/-- `*input.Pickle` (with the formatting functions it uses) -/
structure PickleP where
  dispatcher : DispatcherI
  fmt : Fmt

/-- package-level functions of other packages that translated code calls and that are modelled elsewhere -/
structure Env where
  /-- `m20.ValidatePacket(buf, legacyLevel, m20Level)` = (key, val, ts, err) -/
  m20_ValidatePacket : Bytes → Int → Int → Bytes × F64 × Int × Err
  /-- `validate.Ordered(key, ts)` (stateful: the answer is a parameter here, the state machine is `Crng.Ordered`) -/
  validate_Ordered : Bytes → Int → Err
  /-- `computeRingPosition(key)`: first two MD5 bytes (modelled in `Crng.MD5` / `Crng.CHash`) -/
  computeRingPosition : Bytes → Int
  /-- `strconv.Atoi`, `strconv.ParseBool`, `strings.TrimSpace` -/
  strconv_Atoi : Bytes → Int × Err
  strconv_ParseBool : Bytes → Bool × Err
  strings_TrimSpace : Bytes → Bytes
  /-- `matcher.New(prefix, notPrefix, sub, notSub, regex, notRegex)`: the matcher (here: its options) or an error -/
  matcher_New : Bytes → Bytes → Bytes → Bytes → Bytes → Bytes → MatcherArgs × Err
  /-- `regexp.Compile` -/
  regexp_Compile : Bytes → Option RegexpI × Err
  /-- `aggregator.New(fun, matcher, outFmt, cache, interval, wait, dropRaw, out)` -/
  aggregator_New : Bytes → MatcherArgs → Bytes → Bool → Int → Int → Bool → Unit → AggArgs × Err
  /-- `rewriter.New(old, new, not, max)` (translated itself: `Crng.Gen.Code.rewriter_New`) -/
  rewriter_New : Bytes → Bytes → Bytes → Int → RW × Err
  /-- `destination.New(...)`: the destination (here: the arguments it was built from) or an error -/
  destination_New : Bytes → MatcherArgs → Bytes → Bytes → Bool → Bool → Int → Int → Int → Int → Int → Int → Int → Int → Int → Int → DestP × Err
instance : Inhabited Env := ⟨⟨fun _ _ _ => default, fun _ _ => default, fun _ => default, fun _ => default, fun _ => default, fun b => b,
  fun _ _ _ _ _ _ => default, fun _ => default, fun _ _ _ _ _ _ _ _ => default, fun _ _ _ _ => default,
  fun _ _ _ _ _ _ _ _ _ _ _ _ _ _ _ _ => default⟩⟩

end Crng.Code
