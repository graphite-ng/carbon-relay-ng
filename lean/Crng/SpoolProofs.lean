import Crng.Spool
namespace Crng.Spool

/-- `enabled` as a proposition, with the emptiness tests resolved into the element they promise -/
def Enabled (h1 h2 : Bool) (s : S) : Act → Prop
  | .handoffQueued _ | .handoffDropSlow _ => ∃ k, s.cur = some k
  | .handoffSpooled _ | .handoffDropSpool _ | .reconnect => s.cur = none
  | .take k => k < s.ngen ∧ (s.conns k).stopped = false ∧ (s.conns k).hd = none ∧ ∃ x q, (s.conns k).inQ = x :: q
  | .keepAdd k => k < s.ngen ∧ (s.conns k).stopped = false ∧ ∃ x, (s.conns k).hd = some x
  | .deliver k id => k < s.ngen ∧ (s.conns k).dead = false ∧ id ∈ (s.conns k).wire
  | .rotate k id => k < s.ngen ∧ id ∈ (s.conns k).keep ∧ (h1 = true → id ∈ s.recv)
  | .die k => k < s.ngen
  | .stop k => k < s.ngen ∧ (s.conns k).dead = true ∧ (s.conns k).stopped = false ∧ (s.conns k).hd = none
  | .notice => ∃ k, s.cur = some k ∧ (s.conns k).dead = true
  | .collect k => k < s.ngen ∧ (s.conns k).noticed = true ∧ (s.conns k).collected = false ∧ (h2 = true → (s.conns k).stopped = true)
  | .ingest => ∃ x r, s.redo = x :: r
  | .unspoolQueued | .unspoolDropSlow => (∃ k, s.cur = some k) ∧ ∃ x q, s.spoolQ = x :: q

theorem enabled_iff {h1 h2 : Bool} {s : S} {a : Act} : enabled h1 h2 s a = true ↔ Enabled h1 h2 s a := by
  cases a with
  | notice => simp only [enabled, Enabled]; cases s.cur <;> simp
  | rotate k id => cases h1 <;> simp [enabled, Enabled, and_assoc]
  | collect k => cases h2 <;> simp [enabled, Enabled, and_assoc]
  | _ =>
    simp only [enabled, Enabled, Bool.and_eq_true, Bool.not_eq_true', decide_eq_true_eq, Option.isNone_iff_eq_none,
      Option.isSome_iff_exists, List.isEmpty_eq_false_iff, List.ne_nil_iff_exists_cons, List.contains_eq_mem, and_assoc]

theorem cov_recv {s : S} {id : Nat} (h : id ∈ s.recv) : Covered s id := Or.inl h
theorem cov_cnt {s : S} {id : Nat} (h : id ∈ s.counted) : Covered s id := Or.inr (Or.inl h)
theorem cov_conn {s : S} {id : Nat} (k : Nat) (h : inConn (s.conns k) id) : Covered s id := Or.inr (Or.inr (Or.inl ⟨k, h⟩))
theorem cov_redo {s : S} {id : Nat} (h : id ∈ s.redo) : Covered s id := Or.inr (Or.inr (Or.inr (Or.inl h)))
theorem cov_sp {s : S} {id : Nat} (h : id ∈ s.spoolQ) : Covered s id := Or.inr (Or.inr (Or.inr (Or.inr h)))

theorem cov_upd {s : S} {f : Nat → Conn} {k id : Nat} {c : Conn} (hconns : s.conns = upd f k c) (h : inConn c id) : Covered s id :=
  cov_conn k (by rw [hconns, upd_same]; exact h)

/-- `Covered` carries over when the content of every holding place stays covered. A hypothesis that is left out stands for
    "this place kept its content", which its default proves when the field is unchanged. -/
theorem covered_mono {s s' : S}
    (hrecv : ∀ x ∈ s.recv, Covered s' x := by exact fun _ h => cov_recv h)
    (hcnt : ∀ x ∈ s.counted, Covered s' x := by exact fun _ h => cov_cnt h)
    (hconn : ∀ k x, inConn (s.conns k) x → Covered s' x := by exact fun k _ h => cov_conn k h)
    (hredo : ∀ x ∈ s.redo, Covered s' x := by exact fun _ h => cov_redo h)
    (hsp : ∀ x ∈ s.spoolQ, Covered s' x := by exact fun _ h => cov_sp h) : ∀ x, Covered s x → Covered s' x := by
  intro x h
  rcases h with h | h | ⟨k, h⟩ | h | h
  · exact hrecv x h
  · exact hcnt x h
  · exact hconn k x h
  · exact hredo x h
  · exact hsp x h

/-- the `hconn` of `covered_mono` when among the connections only `k` changed, to `c'`: what `k` held has to stay covered -/
theorem covered_conns_upd {s s' : S} {k : Nat} {c' : Conn} (hconns : s'.conns = upd s.conns k c')
    (hk : ∀ x, inConn (s.conns k) x → Covered s' x) : ∀ j x, inConn (s.conns j) x → Covered s' x := by
  intro j x h
  by_cases hj : j = k
  · exact hk x (hj ▸ h)
  · exact cov_conn j (by rw [hconns, upd_other _ _ hj]; exact h)

theorem conserved_of {s s' : S} (hc : Conserved s) (hh : s'.handed = s.handed) (hm : ∀ id, Covered s id → Covered s' id) :
    Conserved s' := by
  intro id hid; rw [hh] at hid; exact hm id (hc id hid)

theorem conserved_cons {s s' : S} {x : Nat} (hc : Conserved s) (hh : s'.handed = x :: s.handed) (hx : Covered s' x)
    (hm : ∀ id, Covered s id → Covered s' id) : Conserved s' := by
  unfold Conserved
  rw [hh]
  exact List.forall_mem_cons.2 ⟨hx, fun id h => hm id (hc id h)⟩

theorem cur_open {s : S} (hi : Inv s) {k : Nat} (hcur : s.cur = some k) : (s.conns k).collected = false := by
  cases h : (s.conns k).collected with
  | false => rfl
  | true => have := hi.collected_noticed k h; rw [hi.cur_unnoticed k hcur] at this; cases this

theorem inConn_enq {c : Conn} (y : Nat) {x : Nat} (h : inConn c x) : inConn { c with inQ := c.inQ ++ [y] } x :=
  ⟨h.1, h.2.imp_left (List.mem_append_left _)⟩

theorem inConn_enq_self {c : Conn} (y : Nat) (h : c.collected = false) : inConn { c with inQ := c.inQ ++ [y] } y :=
  ⟨h, .inl (List.mem_append_right _ (List.mem_singleton_self y))⟩

/-- one enabled step keeps the conservation property — under H1 and H2 -/
theorem step_conserved (s : S) (a : Act) (hen : enabled true true s a = true) (hc : Conserved s) (hi : Inv s) :
    Conserved (step s a) := by
  cases a with
  | handoffQueued id =>
    obtain ⟨k, hcur⟩ := enabled_iff.mp hen
    simp only [step, hcur]
    exact conserved_cons hc rfl (cov_upd rfl (inConn_enq_self id (cur_open hi hcur)))
      (covered_mono (hconn := covered_conns_upd rfl fun _ hx => cov_upd rfl (inConn_enq id hx)))
  | handoffDropSlow id | handoffDropSpool id =>
    simp only [step]
    exact conserved_cons hc rfl (cov_cnt (List.mem_cons_self ..)) (covered_mono (hcnt := fun _ h => cov_cnt (List.mem_cons_of_mem _ h)))
  | handoffSpooled id =>
    simp only [step]
    exact conserved_cons hc rfl (cov_sp (List.mem_append_right _ (List.mem_singleton_self id)))
      (covered_mono (hsp := fun _ h => cov_sp (List.mem_append_left _ h)))
  | take k =>
    obtain ⟨-, -, hhd, y, q, hq⟩ := enabled_iff.mp hen
    simp only [step, hq]
    refine conserved_of hc rfl (covered_mono (hconn := covered_conns_upd rfl fun x hx => cov_upd rfl ⟨hx.1, ?_⟩))
    rcases hx.2 with h | h | h
    · rw [hq] at h
      rcases List.mem_cons.mp h with rfl | h
      · exact .inr (.inl rfl)
      · exact .inl h
    · rw [hhd] at h; cases h
    · exact .inr (.inr h)
  | keepAdd k =>
    obtain ⟨-, -, y, hh⟩ := enabled_iff.mp hen
    simp only [step, hh]
    refine conserved_of hc rfl (covered_mono (hconn := covered_conns_upd rfl fun x hx => cov_upd rfl ⟨hx.1, ?_⟩))
    rcases hx.2 with h | h | h
    · exact .inl h
    · rw [hh] at h; cases h; exact .inr (.inr (List.mem_append_right _ (List.mem_singleton_self _)))
    · exact .inr (.inr (List.mem_append_left _ h))
  | deliver k id =>
    simp only [step]
    exact conserved_of hc rfl (covered_mono (hconn := covered_conns_upd rfl fun _ hx => cov_upd rfl hx)
      (hrecv := fun _ h => cov_recv (List.mem_cons_of_mem _ h)))
  | rotate k id =>
    obtain ⟨-, -, hrecv⟩ := enabled_iff.mp hen
    simp only [step]
    refine conserved_of hc rfl (covered_mono (hconn := covered_conns_upd rfl fun x hx => ?_))
    -- H1: the line keepSafe forgets has arrived
    by_cases hxi : x = id
    · exact cov_recv (hxi ▸ hrecv rfl)
    · exact cov_upd rfl ⟨hx.1, hx.2.imp_right (·.imp_right fun h => (List.mem_erase_of_ne hxi).mpr h)⟩
  | die k | stop k =>
    simp only [step]
    exact conserved_of hc rfl (covered_mono (hconn := covered_conns_upd rfl fun _ hx => cov_upd rfl hx))
  | notice =>
    obtain ⟨k, hcur, -⟩ := enabled_iff.mp hen
    simp only [step, hcur]
    exact conserved_of hc rfl (covered_mono (hconn := covered_conns_upd rfl fun _ hx => cov_upd rfl hx))
  | collect k =>
    obtain ⟨-, -, -, hstop⟩ := enabled_iff.mp hen
    -- H2: HandleData has stopped, so it holds no line of its own
    have hhd := hi.stopped_hd k (hstop rfl)
    simp only [step]
    exact conserved_of hc rfl (covered_mono (hredo := fun _ h => cov_redo (List.mem_append_left _ h))
      (hconn := covered_conns_upd rfl fun x hx => cov_redo (List.mem_append_right _ (by simpa [hhd, or_comm] using hx.2))))
  | ingest =>
    obtain ⟨y, r, hr⟩ := enabled_iff.mp hen
    simp only [step, hr]
    exact conserved_of hc rfl (covered_mono (hsp := fun _ h => cov_sp (List.mem_append_left _ h))
      (hredo := hr ▸ List.forall_mem_cons.2 ⟨cov_sp (List.mem_append_right _ (List.mem_singleton_self y)), fun _ h => cov_redo h⟩))
  | unspoolQueued =>
    obtain ⟨⟨k, hcur⟩, y, q, hq⟩ := enabled_iff.mp hen
    simp only [step, hcur, hq]
    exact conserved_of hc rfl (covered_mono (hconn := covered_conns_upd rfl fun _ hx => cov_upd rfl (inConn_enq y hx))
      (hsp := hq ▸ List.forall_mem_cons.2 ⟨cov_upd rfl (inConn_enq_self y (cur_open hi hcur)), fun _ h => cov_sp h⟩))
  | unspoolDropSlow =>
    obtain ⟨-, y, q, hq⟩ := enabled_iff.mp hen
    simp only [step, hq]
    exact conserved_of hc rfl (covered_mono (hcnt := fun _ h => cov_cnt (List.mem_cons_of_mem _ h))
      (hsp := hq ▸ List.forall_mem_cons.2 ⟨cov_cnt (List.mem_cons_self ..), fun _ h => cov_sp h⟩))
  | reconnect =>
    simp only [step]
    exact conserved_of hc rfl covered_mono

/-- the part of `Inv` that speaks of one connection record (`recv` enters through `wire`) -/
structure ConnOk (recv : List Nat) (c : Conn) : Prop where
  collected_noticed : c.collected = true → c.noticed = true
  noticed_dead : c.noticed = true → c.dead = true
  stopped_dead : c.stopped = true → c.dead = true
  stopped_hd : c.stopped = true → c.hd = none
  wire : c.dead = false → ∀ id ∈ c.keep, id ∈ c.wire ∨ id ∈ recv

theorem Inv.conn {s : S} (hi : Inv s) (k : Nat) : ConnOk s.recv (s.conns k) :=
  ⟨hi.collected_noticed k, hi.noticed_dead k, hi.stopped_dead k, hi.stopped_hd k, hi.wire k⟩

theorem Inv.of_conn {s : S} (fresh : ∀ k, s.ngen ≤ k → s.conns k = {}) (cur_lt : ∀ k, s.cur = some k → k < s.ngen)
    (cur_unnoticed : ∀ k, s.cur = some k → (s.conns k).noticed = false)
    (old_noticed : ∀ k, k < s.ngen → s.cur ≠ some k → (s.conns k).noticed = true)
    (counters : s.counted.length = s.slowConn + s.slowSpool) (hc : ∀ k, ConnOk s.recv (s.conns k)) : Inv s :=
  ⟨fresh, cur_lt, cur_unnoticed, fun k => (hc k).collected_noticed, old_noticed, fun k => (hc k).noticed_dead,
    fun k => (hc k).stopped_dead, fun k => (hc k).stopped_hd, counters, fun k => (hc k).wire⟩

theorem connOk_upd {s : S} (hi : Inv s) {recv' : List Nat} (hrecv : s.recv ⊆ recv') {k : Nat} {c' : Conn} (hc : ConnOk recv' c')
    (j : Nat) : ConnOk recv' (upd s.conns k c' j) := by
  by_cases hj : j = k
  · rw [hj, upd_same]; exact hc
  · rw [upd_other _ _ hj]
    exact { hi.conn j with wire := fun hd x hx => (hi.wire j hd x hx).imp_right (hrecv ·) }

theorem fresh_upd {s : S} (hi : Inv s) {k : Nat} (hk : k < s.ngen) (c' : Conn) : ∀ j, s.ngen ≤ j → upd s.conns k c' j = {} :=
  fun j hj => (upd_other _ _ (Nat.ne_of_gt (Nat.lt_of_lt_of_le hk hj))).trans (hi.fresh j hj)

/-- only connection `k` (already opened) changed: what the new record has to satisfy -/
theorem inv_conn_change {s s' : S} {k : Nat} {c' : Conn} (hi : Inv s) (hk : k < s.ngen)
    (hconns : s'.conns = upd s.conns k c') (hc : ConnOk s'.recv c')
    (hcount : s'.counted.length = s'.slowConn + s'.slowSpool)
    (hrecv : s.recv ⊆ s'.recv := by exact List.Subset.refl _)
    (hnot : c'.noticed = (s.conns k).noticed := by rfl)
    (hcur : s'.cur = s.cur := by rfl) (hngen : s'.ngen = s.ngen := by rfl) : Inv s' := by
  have hn : ∀ j, (s'.conns j).noticed = (s.conns j).noticed := by
    intro j
    by_cases hj : j = k
    · rw [hconns, hj, upd_same, hnot]
    · rw [hconns, upd_other _ _ hj]
  refine .of_conn ?_ ?_ ?_ ?_ hcount (fun j => hconns ▸ connOk_upd hi hrecv hc j)
  · rw [hconns, hngen]; exact fresh_upd hi hk c'
  · intro j hj; rw [hcur] at hj; rw [hngen]; exact hi.cur_lt j hj
  · intro j hj; rw [hcur] at hj; rw [hn]; exact hi.cur_unnoticed j hj
  · intro j hj hc; rw [hngen] at hj; rw [hcur] at hc; rw [hn]; exact hi.old_noticed j hj hc

theorem inv_same_conns {s s' : S} (hi : Inv s) (hcount : s'.counted.length = s'.slowConn + s'.slowSpool)
    (hconns : s'.conns = s.conns := by rfl) (hcur : s'.cur = s.cur := by rfl) (hngen : s'.ngen = s.ngen := by rfl)
    (hrecv : s'.recv = s.recv := by rfl) : Inv s' := by
  cases s; cases s'
  simp only at hconns hcur hngen hrecv
  subst hconns hcur hngen hrecv
  exact { hi with counters := hcount }

/-- one enabled step keeps the bookkeeping invariants (whatever H1, H2).
    `{ hi.conn k with … }` names the clauses of `ConnOk` the action touches; the others hold as before, the fields they
    mention being unchanged. -/
theorem step_inv (h1 h2 : Bool) (s : S) (a : Act) (hen : enabled h1 h2 s a = true) (hi : Inv s) : Inv (step s a) := by
  cases a with
  | handoffQueued id =>
    obtain ⟨k, hcur⟩ := enabled_iff.mp hen
    simp only [step, hcur]
    exact inv_conn_change hi (hi.cur_lt k hcur) rfl { hi.conn k with } hi.counters (hcur := hcur.symm)
  | handoffDropSlow id | handoffDropSpool id =>
    simp only [step]
    exact inv_same_conns hi (by simp only [List.length_cons, hi.counters]; omega)
  | handoffSpooled id =>
    simp only [step]
    exact inv_same_conns hi hi.counters
  | take k =>
    obtain ⟨hk, hns, -, y, q, hq⟩ := enabled_iff.mp hen
    simp only [step, hq]
    exact inv_conn_change hi hk rfl { hi.conn k with stopped_hd := fun h => nomatch hns.symm.trans h } hi.counters
  | keepAdd k =>
    obtain ⟨hk, -, y, hh⟩ := enabled_iff.mp hen
    simp only [step, hh]
    refine inv_conn_change hi hk rfl { hi.conn k with stopped_hd := fun _ => rfl, wire := fun hd x hx => ?_ } hi.counters
    -- the connection is alive, so the line was written as well as kept
    simp only at hd hx ⊢
    simp only [hd, Bool.false_eq_true, if_false]
    rcases List.mem_append.mp hx with h | h
    · exact (hi.wire k hd x h).imp_left (List.mem_append_left _)
    · exact .inl (List.mem_append_right _ h)
  | deliver k id =>
    obtain ⟨hk, -, -⟩ := enabled_iff.mp hen
    simp only [step]
    refine inv_conn_change hi hk rfl { hi.conn k with wire := fun hd x hx => ?_ } hi.counters (hrecv := List.subset_cons_self ..)
    by_cases hxi : x = id
    · exact .inr (hxi ▸ List.mem_cons_self ..)
    · exact (hi.wire k hd x hx).imp (fun h => (List.mem_erase_of_ne hxi).mpr h) (List.mem_cons_of_mem _)
  | rotate k id =>
    obtain ⟨hk, -, -⟩ := enabled_iff.mp hen
    simp only [step]
    exact inv_conn_change hi hk rfl { hi.conn k with wire := fun hd x hx => hi.wire k hd x (List.mem_of_mem_erase hx) } hi.counters
  | die k =>
    simp only [step]
    exact inv_conn_change hi (enabled_iff.mp hen) rfl
      { hi.conn k with noticed_dead := fun _ => rfl, stopped_dead := fun _ => rfl, wire := fun h => nomatch h } hi.counters
  | stop k =>
    obtain ⟨hk, hdead, -, hhd⟩ := enabled_iff.mp hen
    simp only [step]
    exact inv_conn_change hi hk rfl { hi.conn k with stopped_dead := fun _ => hdead, stopped_hd := fun _ => hhd } hi.counters
  | notice =>
    obtain ⟨k, hcur, hdead⟩ := enabled_iff.mp hen
    have hk := hi.cur_lt k hcur
    simp only [step, hcur]
    refine .of_conn (fresh_upd hi hk _) nofun nofun ?_ hi.counters
      (connOk_upd hi (List.Subset.refl _) { hi.conn k with collected_noticed := fun _ => rfl, noticed_dead := fun _ => hdead })
    intro j hj _
    by_cases hjk : j = k
    · rw [hjk]; exact congrArg Conn.noticed (upd_same ..)
    · exact (congrArg Conn.noticed (upd_other _ _ hjk)).trans
        (hi.old_noticed j hj (by rw [hcur]; exact fun h => hjk (Option.some.inj h).symm))
  | collect k =>
    obtain ⟨hk, hn, -, -⟩ := enabled_iff.mp hen
    simp only [step]
    exact inv_conn_change hi hk rfl { hi.conn k with collected_noticed := fun _ => hn, wire := fun _ _ hx => nomatch hx } hi.counters
  | ingest =>
    obtain ⟨y, r, hr⟩ := enabled_iff.mp hen
    simp only [step, hr]
    exact inv_same_conns hi hi.counters
  | unspoolQueued =>
    obtain ⟨⟨k, hcur⟩, y, q, hq⟩ := enabled_iff.mp hen
    simp only [step, hcur, hq]
    exact inv_conn_change hi (hi.cur_lt k hcur) rfl { hi.conn k with } hi.counters (hcur := hcur.symm)
  | unspoolDropSlow =>
    obtain ⟨-, y, q, hq⟩ := enabled_iff.mp hen
    simp only [step, hq]
    exact inv_same_conns hi (by simp only [List.length_cons, hi.counters]; omega)
  | reconnect =>
    have hcur := enabled_iff.mp hen
    simp only [step]
    refine .of_conn ?_ ?_ ?_ ?_ hi.counters hi.conn
    · intro j hj; exact hi.fresh j (Nat.le_of_succ_le hj)
    · intro j hj; cases hj; exact Nat.lt_succ_self _
    · intro j hj; cases hj; exact congrArg Conn.noticed (hi.fresh s.ngen (Nat.le_refl _))
    · intro j hj hne
      have : j ≠ s.ngen := fun h => hne (h ▸ rfl)
      exact hi.old_noticed j (Nat.lt_of_le_of_ne (Nat.le_of_lt_succ hj) this) (by rw [hcur]; exact fun h => nomatch h)

end Crng.Spool
