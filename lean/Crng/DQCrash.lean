import Crng.DQFifo
/-! Recovery: what reopening a disk delivers. `Recov`/`RecG` say what makes a (disk, ghost) pair recoverable, `CrashOK` is
    the guarantee of C08 for one crash snapshot. -/
namespace Crng.DQ

/-- draining a consistent state delivers exactly the pending messages, in order, and stops -/
theorem drain_spec {cfg : Cfg} : ∀ (recs : List Rec) (s : St) (fuel : Nat), Inv cfg s recs → Ready cfg s recs →
    recs.length ≤ fuel → drain cfg fuel s = (recs.map (·.msg), true) := by
  intro recs
  induction recs with
  | nil =>
    intro s fuel h _ _
    cases fuel <;> simp [drain, h.hasData_nil]
  | cons r rs ih =>
    intro s fuel h hr hf
    cases fuel with
    | zero => simp at hf
    | succ f =>
      have h2 := loopTop_inv (fuelOf_pos s.disk) (moveForward_inv h hr)
      have := ih (loopTop cfg (fuelOf s.disk) (moveForward s)) f h2.1 h2.2 (by simp at hf; omega)
      simp only [drain, h.hasData_cons, if_true, stepEv_get_cons h, this, (hr r rs rfl).1, List.map_cons]

theorem drain_loopTop {cfg : Cfg} {s : St} {recs : List Rec} {fuel : Nat} (hf : 0 < fuel) (h : Inv cfg s recs) :
    drain cfg recs.length (loopTop cfg fuel s) = (recs.map (·.msg), true) :=
  drain_spec recs _ _ (loopTop_inv hf h).1 (loopTop_inv hf h).2 (Nat.le_refl _)

/-- a chain that starts in file `f` and ends in a later file splits into the records of `f` and a chain from `(f+1, 0)` -/
theorem chain_split_file (cfg : Cfg) : ∀ (rm : List Rec) (f p : Nat) (e : Nat × Nat), Chain cfg (f, p) rm e → f < e.1 →
    ∃ old new, rm = old ++ new ∧ old ≠ [] ∧ (∀ r ∈ old, r.file = f) ∧ Chain cfg (f + 1, 0) new e ∧ (∀ r ∈ new, f < r.file) := by
  intro rm
  induction rm with
  | nil => intro f p e h hlt; simp [Chain] at h; subst h; simp at hlt
  | cons r rs ih =>
    intro f p e h hlt
    obtain ⟨h1, h2⟩ := h
    have hf : r.file = f := congrArg Prod.fst h1
    by_cases hroll : r.stop > cfg.maxBytes
    · rw [Rec.next_roll hroll, hf] at h2
      exact ⟨[r], rs, rfl, by simp, fun x hx => List.mem_singleton.mp hx ▸ hf, h2, fun x hx => (chain_bound h2 x hx).1⟩
    · rw [Rec.next_fit hroll, hf] at h2
      obtain ⟨old, new, e1, _, e3, e4, e5⟩ := ih f r.stop e h2 hlt
      refine ⟨r :: old, new, by rw [e1]; rfl, by simp, ?_, e4, e5⟩
      intro x hx
      rcases List.mem_cons.mp hx with rfl | hx
      · exact hf
      · exact e3 x hx

/-- what the metadata of a disk promises, relative to a list of records `rm` -/
structure Recov (cfg : Cfg) (D : Disk) (rm : List Rec) : Prop where
  chain : Chain cfg ((loadMem D).rfn, (loadMem D).rpos) rm ((loadMem D).wfn, (loadMem D).wpos)
  small : ∀ r ∈ rm, r.msg.length < 2147483648

theorem loadMem_ahead (D : Disk) : (loadMem D).nrfn = (loadMem D).rfn ∧ (loadMem D).nrpos = (loadMem D).rpos := by
  unfold loadMem; split <;> simp

theorem loadMem_congr (D D' : Disk) (h : D'.metaF = D.metaF) : loadMem D' = loadMem D := by unfold loadMem; rw [h]

theorem Recov.congr {cfg : Cfg} {D D' : Disk} {rm : List Rec} (h : Recov cfg D rm) (hm : D'.metaF = D.metaF) : Recov cfg D' rm :=
  ⟨by rw [loadMem_congr _ _ hm]; exact h.chain, h.small⟩

/-- every described record is still on disk: reopening delivers all of them -/
theorem recover_all (cfg : Cfg) (D : Disk) (rm : List Rec) (h : Recov cfg D rm) (hod : ∀ r ∈ rm, OnDisk D r) :
    ∃ fuel, drain cfg fuel (openQ cfg D []) = (rm.map (·.msg), true) := by
  have base : Inv cfg { mem := loadMem D, disk := D, log := [], g := {} } rm :=
    { chain := h.chain, ondisk := hod, small := h.small, ahead := Or.inl (loadMem_ahead D) }
  exact ⟨rm.length, drain_loopTop (fuelOf_pos D) base⟩

/-- the first described file is gone (removed after it was consumed): reopening skips it and delivers the rest -/
theorem recover_skip (cfg : Cfg) (D : Disk) (rm : List Rec) (h : Recov cfg D rm)
    (hmiss : segGet D (loadMem D).rfn = none) (hlt : (loadMem D).rfn < (loadMem D).wfn)
    (hod : ∀ r ∈ rm, (loadMem D).rfn < r.file → OnDisk D r) :
    ∃ old new fuel, rm = old ++ new ∧ old ≠ [] ∧ (∀ r ∈ old, r.file = (loadMem D).rfn) ∧
      drain cfg fuel (openQ cfg D []) = (new.map (·.msg), true) := by
  obtain ⟨old, new, e1, e2, e3, e4, e5⟩ := chain_split_file cfg rm _ _ _ h.chain hlt
  refine ⟨old, new, new.length, e1, e2, e3, ?_⟩
  obtain ⟨s', hs', hc⟩ := loopTop_skip cfg (fuelOf_pos D) { mem := loadMem D, disk := D, log := [], g := {} }
    hmiss hlt (loadMem_ahead D).2
  have hnew : ∀ r ∈ new, r ∈ rm := fun r hr => e1 ▸ List.mem_append_right _ hr
  -- a state at the start of the next file is consistent for `new`, and `s'` has its `core`
  have inv2 : Inv cfg s' new :=
    Inv.congr (s := { mem := { rfn := (loadMem D).rfn + 1, wfn := (loadMem D).wfn, wpos := (loadMem D).wpos,
                               nrfn := (loadMem D).rfn + 1, dataRead := s'.mem.dataRead }, disk := D })
      { chain := e4, ondisk := fun r hr => hod r (hnew r hr) (e5 r hr), small := fun r hr => h.small r (hnew r hr),
        ahead := Or.inl ⟨rfl, rfl⟩ } hc
  unfold openQ
  rw [hs']
  exact drain_loopTop (Nat.sub_pos_of_lt (one_lt_fuelOf D)) inv2

/-- the guarantee for one crash snapshot: reopening it terminates and delivers the records that were pending at the
    last completed sync, except that up to `dsince` of the oldest ones — all already handed to the consumer — may be missing -/
def CrashOK (cfg : Cfg) (e : Entry) : Prop :=
  ∃ k fuel, k ≤ e.g.dsince ∧ drain cfg fuel (openQ cfg e.disk []) = ((e.g.synced.drop k).map (·.msg), true)

/-- what makes a (disk, ghost) pair recoverable -/
inductive RecG (cfg : Cfg) (D : Disk) (g : Ghost) : Prop where
  | all (h : Recov cfg D g.synced) (hod : ∀ r ∈ g.synced, OnDisk D r)
  | skip (h : Recov cfg D g.synced) (hmiss : segGet D (loadMem D).rfn = none) (hlt : (loadMem D).rfn < (loadMem D).wfn)
      (hod : ∀ r ∈ g.synced, (loadMem D).rfn < r.file → OnDisk D r)
      (hcnt : ∀ old new, g.synced = old ++ new → (∀ r ∈ old, r.file = (loadMem D).rfn) → old.length ≤ g.dsince)

theorem RecG.crashOK {cfg : Cfg} {label : String} {D : Disk} {g : Ghost} (h : RecG cfg D g) : CrashOK cfg ⟨label, D, g⟩ := by
  cases h with
  | all h hod =>
    obtain ⟨fuel, hf⟩ := recover_all cfg D g.synced h hod
    exact ⟨0, fuel, Nat.zero_le _, by simpa using hf⟩
  | skip h hmiss hlt hod hcnt =>
    obtain ⟨old, new, fuel, e1, _, e3, hf⟩ := recover_skip cfg D g.synced h hmiss hlt hod
    refine ⟨old.length, fuel, hcnt old new e1 e3, ?_⟩
    show drain cfg fuel (openQ cfg D []) = ((g.synced.drop old.length).map (·.msg), true)
    rw [hf, e1]; simp

def LogOK (cfg : Cfg) (s : St) : Prop := ∀ e ∈ s.log, CrashOK cfg e

theorem logOK_cons {cfg : Cfg} {L : Log} {label : String} {D : Disk} {g : Ghost}
    (h : ∀ e ∈ L, CrashOK cfg e) (hr : RecG cfg D g) : ∀ e ∈ (⟨label, D, g⟩ :: L : Log), CrashOK cfg e :=
  List.forall_mem_cons.mpr ⟨hr.crashOK, h⟩

theorem LogOK.crash {cfg : Cfg} {s : St} (label : String) (h : LogOK cfg s) (hr : RecG cfg s.disk s.g) : LogOK cfg (s.crash label) :=
  logOK_cons h hr

end Crng.DQ
