/-! The dispatch pipeline of table.go / route.go / matcher.go (C01, C03, C04, C11, C19). -/
namespace Crng.Tb
abbrev Bytes := List UInt8

def hasPrefix (s p : Bytes) : Bool := s.take p.length == p
def contains (s sub : Bytes) : Bool := (List.range (s.length + 1)).any fun i => (s.drop i).take sub.length == sub

/-- a compiled regular expression is whatever decides matches; `pre` is the prefix the code derived from its source -/
structure Rx where
  accepts : Bytes → Bool
  pre : Bytes

structure Matcher where
  prefix_ : Bytes := []
  notPrefix : Bytes := []
  sub : Bytes := []
  notSub : Bytes := []
  regex : Option Rx := none
  notRegex : Option Rx := none

/-- matcher.go `Match`, statement by statement -/
def Matcher.match (m : Matcher) (s : Bytes) : Bool :=
  if m.prefix_.length > 0 && !hasPrefix s m.prefix_ then false
  else if m.notPrefix.length > 0 && hasPrefix s m.notPrefix then false
  else if m.sub.length > 0 && !contains s m.sub then false
  else if m.notSub.length > 0 && contains s m.notSub then false
  else if (match m.regex with
           | some r => (r.pre.length > 0 && !hasPrefix s r.pre) || !r.accepts s
           | none => false) then false
  else if (match m.notRegex with
           | some r => (r.pre.length == 0 || hasPrefix s r.pre) && r.accepts s
           | none => false) then false
  else true

/-- the documented meaning: conjunction of the six conditions, empty option = no constraint -/
def Matcher.spec (m : Matcher) (s : Bytes) : Bool :=
  (m.prefix_.isEmpty || hasPrefix s m.prefix_) && (m.notPrefix.isEmpty || !hasPrefix s m.notPrefix) &&
  (m.sub.isEmpty || contains s m.sub) && (m.notSub.isEmpty || !contains s m.notSub) &&
  (match m.regex with | some r => r.accepts s | none => true) &&
  (match m.notRegex with | some r => !r.accepts s | none => true)

/-- the derived prefix of a regex is sound: every string it matches starts with it -/
def Rx.PrefixOK (r : Rx) : Prop := ∀ s, r.accepts s = true → hasPrefix s r.pre = true
def Matcher.PrefixOK (m : Matcher) : Prop :=
  (∀ r, m.regex = some r → r.PrefixOK) ∧ (∀ r, m.notRegex = some r → r.PrefixOK)

theorem hasPrefix_nil (s : Bytes) : hasPrefix s [] = true := by simp [hasPrefix]
theorem hasPrefix_iff (s p : Bytes) : hasPrefix s p = true ↔ p <+: s := by
  rw [hasPrefix, beq_iff_eq, List.prefix_iff_eq_take, eq_comm]

theorem len_pos_eq (l : Bytes) : decide (l.length > 0) = !l.isEmpty := by cases l <;> simp
theorem len_zero_eq (l : Bytes) : (l.length == 0) = l.isEmpty := by cases l <;> simp

theorem Rx.PrefixOK.shortcut {r : Rx} (h : r.PrefixOK) (s : Bytes) :
    ((r.pre.isEmpty || hasPrefix s r.pre) && r.accepts s) = r.accepts s := by
  cases ha : r.accepts s
  · simp
  · simp [h s ha]

/-! ### routes and destinations (route.go) -/
inductive RouteKind | sendAll | sendFirst | other deriving DecidableEq, Repr

structure Route where
  matcher : Matcher
  kind : RouteKind
  dests : List Matcher        -- destination filters, in configured order

/-- `for _, dest := range dests { if dest.Match(x) { dest.In <- buf } }` -/
def sendAllLoop (x : Bytes) : List Matcher → Nat → List Nat
  | [], _ => []
  | d :: ds, i => if d.match x then i :: sendAllLoop x ds (i + 1) else sendAllLoop x ds (i + 1)

/-- same loop with `break` after the first hit -/
def sendFirstLoop (x : Bytes) : List Matcher → Nat → List Nat
  | [], _ => []
  | d :: ds, i => if d.match x then [i] else sendFirstLoop x ds (i + 1)

/-- which destinations of a route receive the line; `x` is what the code passes to the destination filter -/
def Route.dispatch (r : Route) (x : Bytes) : List Nat :=
  match r.kind with
  | .sendAll => sendAllLoop x r.dests 0
  | .sendFirst => sendFirstLoop x r.dests 0
  | .other => []

/-- indices (from `i`) of the elements satisfying `p` -/
def idxFilter {α : Type} (p : α → Bool) : List α → Nat → List Nat
  | [], _ => []
  | a :: t, i => if p a then i :: idxFilter p t (i + 1) else idxFilter p t (i + 1)

theorem sendAll_exact (x : Bytes) (ds : List Matcher) (i : Nat) : sendAllLoop x ds i = idxFilter (·.match x) ds i := by
  induction ds generalizing i with
  | nil => rfl
  | cons d ds ih => simp only [sendAllLoop, idxFilter, ih]

theorem sendFirst_exact (x : Bytes) (ds : List Matcher) (i : Nat) : sendFirstLoop x ds i = (idxFilter (·.match x) ds i).take 1 := by
  induction ds generalizing i with
  | nil => rfl
  | cons d ds ih =>
    simp only [sendFirstLoop, idxFilter]
    split
    · simp
    · exact ih (i + 1)

theorem idxFilter_sublist {α : Type} (p : α → Bool) (l : List α) (i : Nat) :
    (idxFilter p l i).Sublist (List.range' i l.length) := by
  induction l generalizing i with
  | nil => exact List.nil_sublist _
  | cons a t ih =>
    simp only [idxFilter, List.length_cons, List.range'_succ]
    split
    · exact (ih (i + 1)).cons_cons i
    · exact (ih (i + 1)).cons i

theorem idxFilter_isEmpty {α : Type} (p : α → Bool) (l : List α) (i : Nat) : (idxFilter p l i).isEmpty = !l.any p := by
  induction l generalizing i with
  | nil => rfl
  | cons a t ih => cases h : p a <;> simp [idxFilter, h, ih]

/-! ### aggregators as seen from the table (aggregator.go AddMaybe) -/
structure Agg where
  matcher : Matcher
  dropRaw : Bool

def Matcher.preMatch (m : Matcher) (s : Bytes) : Bool :=
  if m.prefix_.length > 0 && !hasPrefix s m.prefix_ then false
  else if m.notPrefix.length > 0 && hasPrefix s m.notPrefix then false
  else if m.sub.length > 0 && !contains s m.sub then false
  else if m.notSub.length > 0 && contains s m.notSub then false
  else if (match m.regex with | some r => r.pre.length > 0 && !hasPrefix s r.pre | none => false) then false
  else true

/-- `MatchRegexAndExpand` succeeded? (`useNot` = the repaired version that also consults notRegex) -/
def Matcher.regexStage (m : Matcher) (useNot : Bool) (s : Bytes) : Bool :=
  (match m.regex with | some r => r.accepts s | none => true) &&
  (if useNot then (match m.notRegex with | some r => !r.accepts s | none => true) else true)

/-! C03: the two prefix shortcuts never change the decision -/
/-- `Match` is `preMatch`, then the regex itself, then the not-regex clause with its shortcut -/
theorem match_eq_preMatch (m : Matcher) (s : Bytes) :
    m.match s = (m.preMatch s && (match m.regex with | some r => r.accepts s | none => true) &&
      !(match m.notRegex with | some r => (r.pre.isEmpty || hasPrefix s r.pre) && r.accepts s | none => false)) := by
  unfold Matcher.match Matcher.preMatch
  -- `Bool.if_false_left` turns each `if c then false else rest` of the chains into `!c && rest`
  simp only [len_pos_eq, len_zero_eq, Bool.if_false_left, Bool.decide_eq_true, Bool.and_true]
  cases m.regex <;> simp [Bool.and_assoc]

/-- an aggregation's two stages (pre-match, then the regex stage that also consults notRegex) together are the complete
six-condition filter -/
theorem preMatch_regexStage (m : Matcher) (h : m.PrefixOK) (s : Bytes) :
    (m.preMatch s && m.regexStage true s) = m.spec s := by
  unfold Matcher.preMatch Matcher.regexStage Matcher.spec
  simp only [len_pos_eq, Bool.if_false_left, Bool.decide_eq_true, Bool.not_and, Bool.not_not, Bool.and_true, Bool.and_assoc, if_true]
  cases hre : m.regex with
  | none => simp
  | some r =>
    -- the regex's prefix test (from `preMatch`) next to its `accepts` (from `regexStage`) is the shortcut
    simp only [← Bool.and_assoc _ (r.accepts s), Bool.not_and, Bool.not_not, (h.1 r hre).shortcut s]

/-- **C03 core.** With sound derived prefixes the shortcut never changes the decision. -/
theorem match_eq_spec (m : Matcher) (h : m.PrefixOK) (s : Bytes) : m.match s = m.spec s := by
  rw [match_eq_preMatch, ← preMatch_regexStage m h s]
  unfold Matcher.regexStage
  cases hre : m.notRegex with
  | none => simp
  | some r => simp [(h.2 r hre).shortcut s, Bool.and_assoc]

/-- the aggregator loop of `Table.Dispatch`: who gets the fields, and was the raw metric consumed -/
def aggLoop (useNot : Bool) (name : Bytes) : List Agg → Nat → List Nat × Bool
  | [], _ => ([], false)
  | a :: as, i =>
    if !a.matcher.preMatch name then aggLoop useNot name as (i + 1)
    else if a.dropRaw && !a.matcher.regexStage useNot name then aggLoop useNot name as (i + 1)
    else if a.dropRaw then ([i], true)
    else let r := aggLoop useNot name as (i + 1); (i :: r.1, r.2)

/-- the raw metric is withheld exactly when some drop-raw aggregation's complete stage-wise filter accepts it -/
theorem aggLoop_consumed_iff (useNot : Bool) (name : Bytes) (as : List Agg) (i : Nat) :
    (aggLoop useNot name as i).2 = as.any (fun a => a.dropRaw && a.matcher.preMatch name && a.matcher.regexStage useNot name) := by
  induction as generalizing i with
  | nil => rfl
  | cons a as ih =>
    simp only [aggLoop, List.any_cons]
    -- along the branches of `aggLoop`: only a drop-raw aggregation whose two stages accept returns `true`; else the tail decides
    cases a.matcher.preMatch name
    · simp [ih]
    · cases a.dropRaw
      · simp [ih]
      · cases a.matcher.regexStage useNot name <;> simp [ih]

theorem aggLoop_sublist (useNot : Bool) (name : Bytes) (as : List Agg) (i : Nat) :
    (aggLoop useNot name as i).1.Sublist (List.range' i as.length) := by
  induction as generalizing i with
  | nil => exact List.nil_sublist _
  | cons a as ih =>
    simp only [aggLoop, List.length_cons, List.range'_succ]
    split
    · exact (ih (i + 1)).cons i
    · split
      · exact (ih (i + 1)).cons i
      · split
        · exact (List.nil_sublist _).cons_cons i
        · exact (ih (i + 1)).cons_cons i

/-- one received line reaches each aggregator at most once (no amplification) -/
theorem aggLoop_bounded (useNot : Bool) (name : Bytes) (as : List Agg) (i : Nat) :
    (aggLoop useNot name as i).1.length ≤ as.length ∧ (aggLoop useNot name as i).1.Pairwise (· < ·) ∧
    ∀ j ∈ (aggLoop useNot name as i).1, i ≤ j := by
  have h := aggLoop_sublist useNot name as i
  exact ⟨by simpa using h.length_le, List.Pairwise.sublist h (List.pairwise_lt_range' 1),
    fun j hj => (List.mem_range'_1.mp (h.subset hj)).1⟩

structure Cfg where
  /-- `ValidatePacket`: the three fields of a valid line -/
  validate : Bytes → Option (Bytes × Bytes × Bytes)
  blacklist : List Matcher
  rewriters : List (Bytes → Bytes)
  aggs : List Agg
  routes : List Route
  useNot : Bool := true
  /-- what the route hands to the destination filters, computed from (name, final line) -/
  destArg : Bytes → Bytes → Bytes := fun name _ => name

structure Result where
  invalid : Bool := false
  blacklisted : Bool := false
  aggIn : List Nat := []
  consumed : Bool := false
  hits : List (Nat × List Nat) := []      -- (route index, destination indices)
  unroutable : Bool := false
  final : Bytes := []
  deriving Repr

def join3 (a b c : Bytes) : Bytes := a ++ [32] ++ b ++ [32] ++ c

/-- the route loop with its `routed` flag -/
def routeLoop (name final : Bytes) (destArg : Bytes → Bytes → Bytes) : List Route → Nat → List (Nat × List Nat)
  | [], _ => []
  | r :: rs, i =>
    if r.matcher.match name then (i, r.dispatch (destArg name final)) :: routeLoop name final destArg rs (i + 1)
    else routeLoop name final destArg rs (i + 1)

theorem routeLoop_exact (name final : Bytes) (da : Bytes → Bytes → Bytes) (rs : List Route) (i : Nat) :
    (routeLoop name final da rs i).map (·.1) = idxFilter (·.matcher.match name) rs i := by
  induction rs generalizing i with
  | nil => rfl
  | cons r rs ih =>
    simp only [routeLoop, idxFilter]
    split <;> simp [ih]

theorem routeLoop_isEmpty (name final : Bytes) (da : Bytes → Bytes → Bytes) (rs : List Route) (i : Nat) :
    (routeLoop name final da rs i).isEmpty = (idxFilter (·.matcher.match name) rs i).isEmpty := by
  rw [← routeLoop_exact name final da, List.isEmpty_map]

def dispatch (c : Cfg) (line : Bytes) : Result :=
  match c.validate line with
  | none => { invalid := true }
  | some (name, val, ts) =>
    if c.blacklist.any (·.match name) then { blacklisted := true }
    else
      let name' := c.rewriters.foldl (fun n f => f n) name
      let (aggIn, consumed) := aggLoop c.useNot name' c.aggs 0
      if consumed then { aggIn, consumed := true }
      else
        let final := join3 name' val ts
        let hits := routeLoop name' final c.destArg c.routes 0
        { aggIn, hits, unroutable := hits.isEmpty, final }

/-- aggregate output goes to the routes only -/
def dispatchAggregate (c : Cfg) (nameOf : Bytes → Bytes) (buf : Bytes) : Result :=
  let hits := routeLoop (nameOf buf) buf c.destArg c.routes 0
  { hits, unroutable := hits.isEmpty, final := buf }

theorem dispatch_of_invalid {c : Cfg} {line : Bytes} (hv : c.validate line = none) : dispatch c line = { invalid := true } := by
  unfold dispatch; simp only [hv]

theorem dispatch_of_blacklisted {c : Cfg} {line name val ts : Bytes} (hv : c.validate line = some (name, val, ts))
    (hb : c.blacklist.any (·.match name) = true) : dispatch c line = { blacklisted := true } := by
  unfold dispatch; simp only [hv, hb, if_true]

/-- past validation and blacklist; the aggregator loop's result is named by its projections -/
theorem dispatch_of_valid {c : Cfg} {line name val ts : Bytes} (hv : c.validate line = some (name, val, ts))
    (hb : c.blacklist.any (·.match name) = false) :
    dispatch c line =
      let name' := c.rewriters.foldl (fun n f => f n) name
      let al := aggLoop c.useNot name' c.aggs 0
      if al.2 then { aggIn := al.1, consumed := true }
      else
        let hits := routeLoop name' (join3 name' val ts) c.destArg c.routes 0
        { aggIn := al.1, hits, unroutable := hits.isEmpty, final := join3 name' val ts } := by
  unfold dispatch; simp only [hv, hb, Bool.false_eq_true, if_false]

/-- the four outcomes of `dispatch`, when nothing is known of the line -/
theorem dispatch_cases (c : Cfg) (line : Bytes) :
    dispatch c line = { invalid := true } ∨ dispatch c line = { blacklisted := true } ∨
    (∃ aggIn, dispatch c line = { aggIn, consumed := true }) ∨
    ∃ aggIn name final, dispatch c line =
      { aggIn, hits := routeLoop name final c.destArg c.routes 0,
        unroutable := (routeLoop name final c.destArg c.routes 0).isEmpty, final } := by
  cases hv : c.validate line with
  | none => exact .inl (dispatch_of_invalid hv)
  | some t =>
    obtain ⟨name, val, ts⟩ := t
    cases hb : c.blacklist.any (·.match name) with
    | true => exact .inr (.inl (dispatch_of_blacklisted hv hb))
    | false =>
      rw [dispatch_of_valid hv hb]
      cases hc : (aggLoop c.useNot (c.rewriters.foldl (fun n f => f n) name) c.aggs 0).2
      · exact .inr (.inr (.inr ⟨_, _, _, by simp only [hc]; rfl⟩))
      · exact .inr (.inr (.inl ⟨_, by simp only [hc]; rfl⟩))

/-! ### C01 -/
/-- every valid, not blacklisted, not consumed line goes to exactly the routes whose filter accepts the rewritten name,
    each once, in table order; it is unroutable exactly when there is none -/
theorem routes_exact (c : Cfg) (line name val ts : Bytes) (hv : c.validate line = some (name, val, ts))
    (hb : c.blacklist.any (·.match name) = false)
    (hc : (aggLoop c.useNot (c.rewriters.foldl (fun n f => f n) name) c.aggs 0).2 = false) :
    ((dispatch c line).hits.map (·.1) = idxFilter (·.matcher.match (c.rewriters.foldl (fun n f => f n) name)) c.routes 0) ∧
    ((dispatch c line).unroutable = (idxFilter (·.matcher.match (c.rewriters.foldl (fun n f => f n) name)) c.routes 0).isEmpty) ∧
    (dispatch c line).final = join3 (c.rewriters.foldl (fun n f => f n) name) val ts ∧
    (dispatch c line).invalid = false ∧ (dispatch c line).blacklisted = false := by
  rw [dispatch_of_valid hv hb]
  simp only [hc, Bool.false_eq_true, if_false]
  exact ⟨routeLoop_exact .., routeLoop_isEmpty .., trivial, trivial, trivial⟩

/-- a blacklisted line is counted as such and goes nowhere -/
theorem blacklisted_nowhere (c : Cfg) (line name val ts : Bytes) (hv : c.validate line = some (name, val, ts))
    (hb : c.blacklist.any (·.match name) = true) :
    (dispatch c line).blacklisted = true ∧ (dispatch c line).hits = [] ∧ (dispatch c line).aggIn = [] ∧
    (dispatch c line).unroutable = false := by
  rw [dispatch_of_blacklisted hv hb]; exact ⟨rfl, rfl, rfl, rfl⟩

/-- an invalid line is counted as such and goes nowhere (C02 gate) -/
theorem invalid_nowhere (c : Cfg) (line : Bytes) (hv : c.validate line = none) :
    (dispatch c line).invalid = true ∧ (dispatch c line).hits = [] ∧ (dispatch c line).aggIn = [] ∧
    (dispatch c line).unroutable = false ∧ (dispatch c line).blacklisted = false := by
  rw [dispatch_of_invalid hv]; exact ⟨rfl, rfl, rfl, rfl, rfl⟩

/-! ### C11 -/
/-- aggregate output never reaches an aggregator, the validator, the blacklist or a rewriter: by construction the result
    has no aggregator input and no rejection flags, whatever the rule set -/
theorem aggregate_only_routes (c : Cfg) (nameOf : Bytes → Bytes) (buf : Bytes) :
    (dispatchAggregate c nameOf buf).aggIn = [] ∧ (dispatchAggregate c nameOf buf).invalid = false ∧
    (dispatchAggregate c nameOf buf).blacklisted = false ∧ (dispatchAggregate c nameOf buf).consumed = false ∧
    (dispatchAggregate c nameOf buf).final = buf := ⟨rfl, rfl, rfl, rfl, rfl⟩

end Crng.Tb
