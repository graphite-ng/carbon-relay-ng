/-! One grafanaNet worker (`run` / `retryFlush`) and the route's shutdown protocol (C17). -/
namespace Crng.GN

inductive Outcome | ok | fail deriving Repr, DecidableEq

structure Wk where
  queue : List (Nat × Bool) := []   -- the shard's buffered channel: (metric id, does it parse?)
  batch : List Nat := []           -- parsed metrics waiting for the next flush
  acked : List (List Nat) := []    -- batches acknowledged with 2xx, oldest first
  outcomes : List Outcome := []    -- what the server will answer to the next requests (exhausted = ok)
  errs : Nat := 0                  -- numErrFlush
  deriving Repr

/-- `retryFlush`: post the same batch until it is acknowledged; never drops or reorders it -/
def retryFlush : Nat → Wk → Wk
  | 0, w => w
  | fuel + 1, w =>
    if w.batch.isEmpty then w else
    match w.outcomes with
    | [] => { w with acked := w.acked ++ [w.batch], batch := [] }
    | .ok :: os => { w with acked := w.acked ++ [w.batch], batch := [], outcomes := os }
    | .fail :: os => retryFlush fuel { w with outcomes := os, errs := w.errs + 1 }

def flushNow (w : Wk) : Wk := retryFlush (w.outcomes.length + 1) w

inductive Ev | recv | timer | shutdown (drain : Bool) deriving Repr

/-- `add`: take one metric from the queue, parse, append, flush when the batch is full -/
def addOne (maxNum : Nat) (w : Wk) : Wk :=
  match w.queue with
  | [] => w
  | (id, okParse) :: q =>
    let w := { w with queue := q }
    if !okParse then w else
    let w := { w with batch := w.batch ++ [id] }
    if w.batch.length == maxNum then flushNow w else w

def drainAll (maxNum : Nat) : Nat → Wk → Wk
  | 0, w => w
  | fuel + 1, w => if w.queue.isEmpty then w else drainAll maxNum fuel (addOne maxNum w)

def step (maxNum : Nat) (w : Wk) : Ev → Wk
  | .recv => addOne maxNum w
  | .timer => flushNow w
  | .shutdown drain => flushNow (if drain then drainAll maxNum (w.queue.length + 1) w else w)

/-- ids that parse, in queue order -/
def good (q : List (Nat × Bool)) : List Nat := (q.filter (·.2)).map (·.1)

/-- everything the worker is responsible for, in arrival order -/
def Wk.all (w : Wk) : List Nat := w.acked.flatten ++ w.batch ++ good w.queue

/-- acknowledging the batch moves it from `batch` to the end of `acked`: `all` does not notice -/
theorem all_ack (w : Wk) (os : List Outcome) :
    ({ w with acked := w.acked ++ [w.batch], batch := [], outcomes := os } : Wk).all = w.all := by
  simp [Wk.all]

/-- taking a parsing metric from the queue into the batch, or dropping one that does not parse: `all` does not notice -/
theorem all_take {w : Wk} {id : Nat} {q : List (Nat × Bool)} (hq : w.queue = (id, true) :: q) :
    ({ w with queue := q, batch := w.batch ++ [id] } : Wk).all = w.all := by
  simp [Wk.all, good, hq]

theorem all_skip {w : Wk} {id : Nat} {q : List (Nat × Bool)} (hq : w.queue = (id, false) :: q) :
    ({ w with queue := q } : Wk).all = w.all := by
  simp [Wk.all, good, hq]

theorem retryFlush_all (fuel : Nat) (w : Wk) : (retryFlush fuel w).all = w.all := by
  fun_induction retryFlush fuel w with
  | case1 | case2 => rfl
  | case3 _ w => exact all_ack w w.outcomes
  | case4 _ w _ os => exact all_ack w os
  | case5 _ _ _ _ _ ih => exact ih

theorem retryFlush_queue (fuel : Nat) (w : Wk) : (retryFlush fuel w).queue = w.queue := by
  fun_induction retryFlush fuel w with
  | case1 | case2 | case3 | case4 => rfl
  | case5 _ _ _ _ _ ih => exact ih

/-- with finitely many failures ahead, the retry loop ends with the batch acknowledged -/
theorem retryFlush_acks : ∀ (fuel : Nat) (w : Wk), w.outcomes.length < fuel → (retryFlush fuel w).batch = [] := by
  intro fuel w h
  fun_induction retryFlush fuel w with
  | case1 => omega
  | case2 _ _ he => simpa using he
  | case3 | case4 => rfl
  | case5 _ _ _ _ heq ih => exact ih (by rw [heq] at h; simpa using h)

theorem addOne_all (maxNum : Nat) (w : Wk) : (addOne maxNum w).all = w.all := by
  unfold addOne
  split
  · rfl
  · next id okp q hq =>
    cases okp with
    | false => exact all_skip hq
    | true =>
      simp only [Bool.not_true, Bool.false_eq_true, if_false]
      split
      · rw [flushNow, retryFlush_all]; exact all_take hq
      · exact all_take hq

theorem drainAll_all (maxNum fuel : Nat) (w : Wk) : (drainAll maxNum fuel w).all = w.all := by
  fun_induction drainAll maxNum fuel w with
  | case1 | case2 => rfl
  | case3 _ _ _ ih => rw [ih, addOne_all]

/-- **C17 core (worker).** Over any history of receives, timer flushes and server answers, the acknowledged batches followed by
    the current batch and the still-queued metrics are exactly the accepted metrics in arrival order: a failed batch is
    retried unchanged, never skipped, never reordered. -/
theorem step_all (maxNum : Nat) (w : Wk) (e : Ev) : (step maxNum w e).all = w.all := by
  cases e with
  | recv => exact addOne_all maxNum w
  | timer => exact retryFlush_all _ w
  | shutdown drain =>
    simp only [step, flushNow]
    rw [retryFlush_all]
    split
    · exact drainAll_all maxNum _ w
    · rfl

/-! ### the route's shutdown protocol: `N` workers, one signal channel, one WaitGroup -/
structure Proto where
  broadcast : Bool     -- `close(shutdown)` (every worker sees it) vs one send (one worker sees it)
  doneOnExit : Bool    -- does a worker that leaves `run` call `wg.Done()`
  drain : Bool         -- does the shutdown branch empty the shard queue before the last flush

/-- how many workers get the signal, how many `Done` calls happen, does `wg.Wait()` return -/
def signalled (p : Proto) (n : Nat) : Nat := if p.broadcast then n else min n 1
def dones (p : Proto) (n : Nat) : Nat := if p.doneOnExit then signalled p n else 0
def shutdownReturns (p : Proto) (n : Nat) : Bool := dones p n == n

theorem shutdown_ok (p : Proto) (n : Nat) (hb : p.broadcast = true) (hd : p.doneOnExit = true) : shutdownReturns p n = true := by
  simp [shutdownReturns, dones, signalled, hb, hd]

/-- the protocol found in the unchanged tree (one send, `Done` unreachable) never returns, for any number of workers ≥ 1 -/
theorem shutdown_hangs (n : Nat) (hn : 0 < n) : shutdownReturns ⟨false, false, false⟩ n = false := by
  simp [shutdownReturns, dones]; omega

end Crng.GN
