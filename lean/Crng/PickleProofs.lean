import Crng.Pickle
import Crng.DQMeta
namespace Crng.Pk
open Crng.DQ (natDigits scanNat scanNat_natDigits isDigit)

theorem rdLE_digits (k n : Nat) :
    rdLE ((List.range k).map fun i => UInt8.ofNat (n / 256 ^ i % 256)) = n % 256 ^ k := by
  induction k generalizing n with
  | zero => simp [rdLE, Nat.mod_one]
  | succ k ih =>
    -- the digits of `n` above the lowest are the digits of `n / 256`
    have shift : ∀ i, n / 256 ^ (i + 1) = n / 256 / 256 ^ i := fun i => by
      rw [Nat.pow_succ', Nat.div_div_eq_div_mul]
    rw [List.range_succ_eq_map, List.map_cons, List.map_map]
    simp only [Function.comp_def, Nat.succ_eq_add_one, shift]
    rw [rdLE, ih, UInt8.toNat_ofNat_of_lt' (Nat.mod_lt _ (by decide)), Nat.pow_zero, Nat.div_one, Nat.pow_succ', Nat.mod_mul]

theorem rdBE_reverse (bs : Bytes) : rdBE bs.reverse = rdLE bs := by
  induction bs with
  | nil => rfl
  | cons b t ih =>
    rw [List.reverse_cons, rdBE, List.foldl_append]
    show rdBE t.reverse * 256 + b.toNat = b.toNat + 256 * rdLE t
    rw [ih]; omega

theorem rdLE_eq_of_digits (k : Nat) {n : Nat} {bs : Bytes} (h : n < 256 ^ k)
    (e : bs = (List.range k).map fun i => UInt8.ofNat (n / 256 ^ i % 256)) : rdLE bs = n := by
  rw [e, rdLE_digits]; exact Nat.mod_eq_of_lt h

theorem rdLE_le16 (n : Nat) (h : n < 65536) : rdLE (le16 n) = n :=
  rdLE_eq_of_digits 2 h (by simp [le16, List.range, List.range.loop])

theorem rdLE_le32 (n : Nat) (h : n < 4294967296) : rdLE (le32 n) = n :=
  rdLE_eq_of_digits 4 h (by simp [le32, List.range, List.range.loop])

theorem rdBE_be64 (n : Nat) (h : n < 18446744073709551616) : rdBE (be64 n) = n := by
  rw [be64, List.map_reverse, rdBE_reverse]; exact rdLE_eq_of_digits 8 h rfl

/-- the test-take-drop with which `stepOp` reads a `w`-byte operand, on an operand that is there -/
theorem operand {α : Type} (a rest : Bytes) {w : Nat} (h : a.length = w) (g : Bytes → Bytes → Option α) :
    (if (a ++ rest).length < w then none else g ((a ++ rest).take w) ((a ++ rest).drop w)) = g a rest := by
  rw [if_neg (by simp [h]), List.take_left' h, List.drop_left' h]

theorem stepOp_binint1 (b : UInt8) (rest : Bytes) (st : List V) {v : Nat} (hv : b.toNat = v) :
    stepOp 75 (b :: rest) st = some (rest, .int v :: st) := hv ▸ rfl

theorem stepOp_binint2 (a rest : Bytes) (st : List V) {v : Nat} (h : a.length = 2) (hv : rdLE a = v) :
    stepOp 77 (a ++ rest) st = some (rest, .int v :: st) :=
  hv ▸ operand a rest h fun x r => some (r, V.int (rdLE x) :: st)

theorem stepOp_binint (a rest : Bytes) (st : List V) {v : Nat} (h : a.length = 4) (hv : rdLE a = v) :
    stepOp 74 (a ++ rest) st = some (rest, .int v :: st) :=
  hv ▸ operand a rest h fun x r => some (r, V.int (rdLE x) :: st)

theorem stepOp_int (n : Nat) (rest : Bytes) (st : List V) :
    stepOp 73 (natDigits n ++ 10 :: rest) st = some (rest, .int n :: st) := by
  simp only [stepOp, scanNat_natDigits n 10 rest (by decide)]

theorem stepOp_binfloat (a rest : Bytes) (st : List V) {v : Nat} (h : a.length = 8) (hv : rdBE a = v) :
    stepOp 71 (a ++ rest) st = some (rest, .float v :: st) :=
  hv ▸ operand a rest h fun x r => some (r, V.float (rdBE x) :: st)

theorem stepOp_short_binstring (n : UInt8) (s rest : Bytes) (st : List V) (h : s.length = n.toNat) :
    stepOp 85 (n :: (s ++ rest)) st = some (rest, .str s :: st) :=
  operand s rest h fun x r => some (r, V.str x :: st)

theorem stepOp_binstring (a s rest : Bytes) (st : List V) (h : a.length = 4) (hn : s.length = rdLE a) :
    stepOp 84 (a ++ (s ++ rest)) st = some (rest, .str s :: st) :=
  (operand a (s ++ rest) h fun x r =>
    if r.length < rdLE x then none else some (r.drop (rdLE x), V.str (r.take (rdLE x)) :: st)).trans
  (operand s rest hn fun x r => some (r, V.str x :: st))

/-- one VM iteration for an opcode other than STOP (46) -/
theorem run_step {f : Nat} {rest rest' : Bytes} {st st' : List V} (op : UInt8)
    (h : stepOp op.toNat rest st = some (rest', st')) (hop : op.toNat ≠ 46 := by decide) :
    run (f + 1) (op :: rest) st = run f rest' st' := by
  simp only [run, hop, if_false, h]

theorem run_str {f : Nat} (s : Bytes) {rest : Bytes} {st : List V} (h : s.length < 4294967296) :
    run (f + 1) (encStr s ++ rest) st = run f rest (.str s :: st) := by
  unfold encStr
  split
  · next hs => exact run_step 85 (stepOp_short_binstring _ s rest st (UInt8.toNat_ofNat_of_lt' hs).symm)
  · rw [List.cons_append, List.append_assoc]
    exact run_step 84 (stepOp_binstring _ s rest st rfl (rdLE_le32 _ h).symm)

theorem run_int {f : Nat} (i : Nat) {rest : Bytes} {st : List V} :
    run (f + 1) (encInt i ++ rest) st = run f rest (.int i :: st) := by
  unfold encInt
  split
  · exact run_step 75 (stepOp_binint1 _ rest st (UInt8.toNat_ofNat_of_lt' (by omega : i < 256)))
  · split
    · exact run_step 77 (stepOp_binint2 _ rest st rfl (rdLE_le16 _ (by omega)))
    · split
      · exact run_step 74 (stepOp_binint _ rest st rfl (rdLE_le32 _ (by omega)))
      · rw [List.cons_append, List.append_assoc]
        exact run_step 73 (stepOp_int i rest st)

theorem run_float {f : Nat} (bits : Nat) {rest : Bytes} {st : List V} (hb : bits < 18446744073709551616) :
    run (f + 1) (71 :: (be64 bits ++ rest)) st = run f rest (.float bits :: st) :=
  run_step 71 (stepOp_binfloat _ rest st (by simp [be64]) (rdBE_be64 _ hb))

/-- every timestamp: one above 2³¹ - 1 is written with the decimal opcode `I` -/
theorem unpickle_pickleBody (name : Bytes) (ts bits : Nat) (hn : name.length < 4294967296) (hb : bits < 18446744073709551616) :
    unpickle (pickleBody name ts bits) = some (.list [.tuple [.str name, .tuple [.int ts, .float bits]]]) := by
  -- ten instructions and STOP need fuel 11
  obtain ⟨k, hk⟩ : ∃ k, (pickleBody name ts bits).length + 1 = k + 11 :=
    ⟨(pickleBody name ts bits).length - 10, by simp [pickleBody, be64]; omega⟩
  rw [unpickle, hk]
  unfold pickleBody
  simp only [List.cons_append, List.nil_append, List.append_assoc]
  rw [run_step 93 (by rfl), run_step 40 (by rfl), run_step 40 (by rfl), run_str name hn,
    run_step 40 (by rfl), run_int ts, run_float bits hb,
    run_step 116 (by rfl), run_step 116 (by rfl), run_step 101 (by rfl)]
  simp [run]

/-- **C16 (pickle half).** For every name shorter than 4 GiB, every 32-bit timestamp and every 64-bit float pattern,
    the body written by `Pickle` decodes to `[(name, (timestamp, value))]`. -/
theorem unpickle_pickle (name : Bytes) (ts bits : Nat) (hn : name.length < 4294967296) (ht : ts < 4294967296)
    (hb : bits < 18446744073709551616) :
    unpickle (pickleBody name ts bits) = some (.list [.tuple [.str name, .tuple [.int ts, .float bits]]]) :=
  unpickle_pickleBody name ts bits hn hb

#print axioms unpickle_pickle
end Crng.Pk
