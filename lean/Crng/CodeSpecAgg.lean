import Crng.CodePrelude
/-! Hand-written closed form of imperatives.go `readAddAgg` on a token list (`addAgg <fn> [regex | option…] <fmt> <interval>
<wait> [cache=…] [dropRaw=…]`): the function token, the optional bare regex of the old syntax, the filter options in any
order, the three positional arguments, the two trailing options with their defaults (cache on, dropRaw off), and the calls of
`matcher.New`, `aggregator.New`, `table.AddAggregator`. `Crng.Tie.CodeReadAgg` proves the function regenerated from /repo
equal to this for every token list. At the end, the closed form of `readRouteOpts` (the filter options of a route command:
`step3`, `routeOpts`), which `Crng.Tie.CodeAgree` ties to the code. -/
namespace Crng.CodeSpecAgg
open Crng.Code

structure M6 where
  prefix_ : Bytes := []
  notPrefix : Bytes := []
  sub : Bytes := []
  notSub : Bytes := []
  regex : Bytes := []
  notRegex : Bytes := []

/-- which token sets which filter option -/
def mSet : Token → Option (Bytes → M6 → M6)
  | .optPrefix => some fun v m => { m with prefix_ := v }
  | .optNotPrefix => some fun v m => { m with notPrefix := v }
  | .optSub => some fun v m => { m with sub := v }
  | .optNotSub => some fun v m => { m with notSub := v }
  | .optRegex => some fun v m => { m with regex := v }
  | .optNotRegex => some fun v m => { m with notRegex := v }
  | _ => none

abbrev T1 := Bytes × Bytes × Bytes × Bytes × Bytes × Scanner × Bytes × TokV
def M6.toTuple (m : M6) (s : Scanner) (t : TokV) : T1 := (m.notPrefix, m.notRegex, m.notSub, m.prefix_, m.regex, s, m.sub, t)
abbrev R := Err × Scanner

def stepMap {σ τ ρ : Type} (f : σ → τ) : Step σ ρ → Step τ ρ
  | .next s => .next (f s)
  | .brk s => .brk (f s)
  | .ret r => .ret r
@[simp] theorem stepMap_next {σ τ ρ : Type} (f : σ → τ) (s : σ) : stepMap (ρ := ρ) f (.next s) = .next (f s) := rfl
@[simp] theorem stepMap_ret {σ τ ρ : Type} (f : σ → τ) (r : ρ) : stepMap (σ := σ) f (.ret r) = .ret r := rfl

/-- one iteration of the filter-option loop (the current token is an option token) -/
def step1 (m : M6) (s : Scanner) (t : TokV) : Step (M6 × Scanner × TokV) R :=
  match mSet t.Token with
  | none => .ret (some "unexpected token %d %q", s)
  | some f =>
    if s.Next.1.Token != Token.word then .ret (errFmtAddAgg, s.Next.2)
    else .next (f s.Next.1.Value m, s.Next.2.Next.2, s.Next.2.Next.1)

def tupleStep1 (st : T1) : Step T1 R :=
  match st with
  | (notPrefix, notRegex, notSub, prefix_, regex, s, sub, t) =>
    stepMap (fun (x : M6 × Scanner × TokV) => x.1.toTuple x.2.1 x.2.2) (step1 { prefix_, notPrefix, sub, notSub, regex, notRegex } s t)
def tupleCond1 (st : T1) : Bool :=
  match st with
  | (_, _, _, _, _, _, _, t) => (t.Token != toki_EOF) && (t.Token != Token.word)

/-- the filter-option loop as recursion over the remaining tokens, `t` being the token already read -/
def optLoop1 : TokV → List TokV → M6 → Except R (M6 × TokV × Scanner)
  | t, toks, m =>
    if t.Token = Token.EOF ∨ t.Token = Token.word then .ok (m, t, ⟨toks⟩)
    else match mSet t.Token with
      | none => .error (some "unexpected token %d %q", ⟨toks⟩)
      | some f =>
        match toks with
        | [] => .error (errFmtAddAgg, ⟨[]⟩)
        | v :: r =>
          if v.Token != Token.word then .error (errFmtAddAgg, ⟨r⟩)
          else match r with
            | [] => .ok (f v.Value m, ⟨Token.EOF, []⟩, ⟨[]⟩)
            | t' :: r' => optLoop1 t' r' (f v.Value m)
termination_by _ toks _ => toks.length
decreasing_by simp_wf; omega

abbrev T2 := Bool × Bool × Err × Scanner × TokV
/-- one iteration of the trailing-option loop on (cache, dropRaw) -/
def tupleStep2 (E : Env) (st : T2) : Step T2 R :=
  match st with
  | (cache, dropRaw, err, s, t) =>
    if t.Token = Token.optCache ∨ t.Token = Token.optDropRaw then
      if s.Next.1.Token = Token.optTrue ∨ s.Next.1.Token = Token.optFalse then
        match E.strconv_ParseBool s.Next.1.Value with
        | (_, some e) => .ret (some e, s.Next.2)
        | (b, none) =>
          if t.Token = Token.optCache then .next (b, dropRaw, none, s.Next.2.Next.2, s.Next.2.Next.1)
          else .next (cache, b, none, s.Next.2.Next.2, s.Next.2.Next.1)
      else .ret (errFmtAddAgg, s.Next.2)
    else .ret (some "unexpected token %d %q", s)
def tupleCond2 (st : T2) : Bool :=
  match st with
  | (_, _, _, _, t) => t.Token != toki_EOF

/-- the trailing options as recursion over the remaining tokens -/
def optLoop2 (E : Env) : TokV → List TokV → Bool → Bool → Except R (Bool × Bool × Scanner)
  | t, toks, cache, dropRaw =>
    if t.Token = Token.EOF then .ok (cache, dropRaw, ⟨toks⟩)
    else if t.Token = Token.optCache ∨ t.Token = Token.optDropRaw then
      match toks with
      | [] => .error (errFmtAddAgg, ⟨[]⟩)
      | v :: r =>
        if v.Token = Token.optTrue ∨ v.Token = Token.optFalse then
          match E.strconv_ParseBool v.Value with
          | (_, some e) => .error (some e, ⟨r⟩)
          | (b, none) =>
            match r with
            | [] => .ok (if t.Token = Token.optCache then b else cache, if t.Token = Token.optCache then dropRaw else b, ⟨[]⟩)
            | t' :: r' => optLoop2 E t' r' (if t.Token = Token.optCache then b else cache) (if t.Token = Token.optCache then dropRaw else b)
        else .error (errFmtAddAgg, ⟨r⟩)
    else .error (some "unexpected token %d %q", ⟨toks⟩)
termination_by _ toks _ _ => toks.length
decreasing_by simp_wf; omega

/-- loop state of `readRouteOpts`: its (named) results and the scanner -/
abbrev T3 := Err × Bytes × Bytes × Bytes × Bytes × Bytes × Scanner × Bytes

def M6.toT3 (m : M6) (e : Err) (s : Scanner) : T3 := (e, m.notPrefix, m.notRegex, m.notSub, m.prefix_, m.regex, s, m.sub)
abbrev R3 := Bytes × Bytes × Bytes × Bytes × Bytes × Bytes × Err × Scanner
def M6.result (m : M6) (e : Err) (s : Scanner) : R3 := (m.prefix_, m.notPrefix, m.sub, m.notSub, m.regex, m.notRegex, e, s)
def badMsg : Token → String
  | .optPrefix => "bad prefix option" | .optNotPrefix => "bad notPrefix option" | .optSub => "bad sub option"
  | .optNotSub => "bad notSub option" | .optRegex => "bad regex option" | .optNotRegex => "bad notRegex option"
  | _ => ""

/-- one iteration of `readRouteOpts`' loop -/
def step3 (m : M6) (e : Err) (s : Scanner) : Step (M6 × Err × Scanner) R3 :=
  let t := s.Next.1
  let s1 := s.Next.2
  if t.Token = Token.EOF ∨ t.Token = Token.sep then .ret (m.result e s1)
  else if t.Token = Token.Error then .ret (({} : M6).result (some "read the error token instead of one i recognize") s1)
  else match mSet t.Token with
    | none => .ret (({} : M6).result (some "unrecognized option '%s'") s1)
    | some f =>
      if s1.Next.1.Token != Token.word then .ret (({} : M6).result (some (badMsg t.Token)) s1.Next.2)
      else .next (f s1.Next.1.Value m, e, s1.Next.2)
def tupleStep3 (st : T3) : Step T3 R3 :=
  match st with
  | (err, notPrefix, notRegex, notSub, prefix_, regex, s, sub) =>
    stepMap (fun (x : M6 × Err × Scanner) => x.1.toT3 x.2.1 x.2.2) (step3 { prefix_, notPrefix, sub, notSub, regex, notRegex } err s)

/-- the route options (`addRoute <type> <key> [option…]  <dest>…`, `modRoute`): read until the double-blank separator or the end -/
def routeOpts : List TokV → M6 → R3
  | [], m => m.result none ⟨[]⟩
  | t :: r, m =>
    if t.Token = Token.EOF ∨ t.Token = Token.sep then m.result none ⟨r⟩
    else if t.Token = Token.Error then ({} : M6).result (some "read the error token instead of one i recognize") ⟨r⟩
    else match mSet t.Token with
      | none => ({} : M6).result (some "unrecognized option '%s'") ⟨r⟩
      | some f =>
        match r with
        | [] => ({} : M6).result (some (badMsg t.Token)) ⟨[]⟩
        | v :: r2 =>
          if v.Token != Token.word then ({} : M6).result (some (badMsg t.Token)) ⟨r2⟩
          else routeOpts r2 (f v.Value m)
termination_by toks => toks.length
decreasing_by simp_wf; omega

def isFn (t : Token) : Bool :=
  t == Token.sumFn || t == Token.avgFn || t == Token.minFn || t == Token.maxFn || t == Token.lastFn || t == Token.deltaFn ||
  t == Token.countFn || t == Token.deriveFn || t == Token.stdevFn

/-- after the filter options: regex required, format word, interval, wait, trailing options, constructors, registration -/
def finishAgg (E : Env) (table : TableI) (fn : Bytes) (m : M6) (t : TokV) (s : Scanner) : Res R :=
  if m.regex == [] then ([], some "need a regex string", s)
  else if t.Token != Token.word then ([], some "need a format string", s)
  else
    let iv := s.Next.1
    if iv.Token != Token.num then ([], some "need an interval number", s.Next.2)
    else match E.strconv_Atoi (E.strings_TrimSpace iv.Value) with
      | (_, some e) => ([], some e, s.Next.2)
      | (interval, none) =>
        let w := s.Next.2.Next.1
        let s2 := s.Next.2.Next.2
        if w.Token != Token.num then ([], some "need a wait number", s2)
        else match E.strconv_Atoi (E.strings_TrimSpace w.Value) with
          | (_, some e) => ([], some e, s2)
          | (wait, none) =>
            match optLoop2 E s2.Next.1 s2.Next.2.toks true false with
            | .error (e, s3) => ([], e, s3)
            | .ok (cache, dropRaw, s3) =>
              match E.matcher_New m.prefix_ m.notPrefix m.sub m.notSub m.regex m.notRegex with
              | (_, some e) => ([], some e, s3)
              | (mm, none) =>
                match E.aggregator_New fn mm t.Value cache interval wait dropRaw () with
                | (_, some e) => ([], some e, s3)
                | (agg, none) => ([Ev.call "table.AddAggregator" table.id [arg agg]], none, s3)

/-- closed form of `readAddAgg` -/
def readAddAggSpec (E : Env) (toks : List TokV) (table : TableI) : Res R :=
  let f := (Scanner.mk toks).Next.1
  let s0 := (Scanner.mk toks).Next.2
  if isFn f.Token = false then ([], some "invalid function. need avg/max/min/sum/last/count/delta/derive/stdev", s0)
  else
    let fn := Lib.sliceTo f.Value (Lib.len f.Value - 1)
    let t1 := s0.Next.1
    let s1 := s0.Next.2
    -- old syntax: a bare word right after the function is the regex
    let m0 : M6 := if t1.Token == Token.word then { regex := t1.Value } else {}
    let t2 := if t1.Token == Token.word then s1.Next.1 else t1
    let s2 := if t1.Token == Token.word then s1.Next.2 else s1
    match optLoop1 t2 s2.toks m0 with
    | .error (e, s) => ([], e, s)
    | .ok (m, t, s) => finishAgg E table fn m t s

end Crng.CodeSpecAgg
