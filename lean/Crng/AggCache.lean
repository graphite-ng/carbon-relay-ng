import Crng.Sorted
/-! The per-aggregator match cache (`matchWithCache`) is transparent (C03). -/
namespace Crng.AC
variable {K V : Type} [DecidableEq K]

abbrev Cache (K V : Type) := List (K × V)
def get (c : Cache K V) (k : K) : Option V := (c.find? (·.1 == k)).map (·.2)

inductive Op (K : Type) where
  | lookup (k : K)                -- matchWithCache(k)
  | expire (keep : K → Bool)      -- the cleaning pass deletes any subset of entries

/-- `matchWithCache` with the pure function `f` = `MatchRegexAndExpand` behind it -/
def step (f : K → V) (c : Cache K V) : Op K → Cache K V × Option V
  | .lookup k => match get c k with
    | some v => (c, some v)
    | none => ((k, f k) :: c, some (f k))
  | .expire keep => (c.filter (fun e => keep e.1), none)

def run (f : K → V) : Cache K V → List (Op K) → List (Option V)
  | _, [] => []
  | c, op :: ops => (step f c op).2 :: run f (step f c op).1 ops

/-- what the answers would be without any cache -/
def spec (f : K → V) : List (Op K) → List (Option V)
  | [] => []
  | .lookup k :: ops => some (f k) :: spec f ops
  | .expire _ :: ops => none :: spec f ops

def Good (f : K → V) (c : Cache K V) : Prop := ∀ e ∈ c, e.2 = f e.1

theorem get_good {f : K → V} {c : Cache K V} (h : Good f c) {k : K} {v : V} (hg : get c k = some v) : v = f k :=
  h (k, v) (Assoc.mem_of_find? hg)

/-- **C03 (cache).** For every history of lookups and expiries the cached answers are those of the uncached function. -/
theorem cache_transparent (f : K → V) : ∀ (ops : List (Op K)) (c : Cache K V), Good f c → run f c ops = spec f ops := by
  intro ops
  induction ops with
  | nil => intro c _; rfl
  | cons op ops ih =>
    intro c h
    cases op with
    | lookup k =>
      simp only [run, spec, step]
      cases hg : get c k with
      | some v => rw [get_good h hg, ih c h]
      | none => rw [ih _ (List.forall_mem_cons.mpr ⟨rfl, h⟩)]
    | expire keep =>
      simp only [run, spec, step]
      rw [ih _ fun e he => h e (List.mem_filter.mp he).1]

end Crng.AC
