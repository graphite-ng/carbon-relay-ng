/-! Insertion sort as the models write it (`insertRule`/`sortRules`, `insertKey`/`sortKeys`, `insertNat`/`sortNat`): each
model keeps its own first-order `insert`, and is an instance of `IsInsert` by `rfl`. -/
namespace Crng.InsertionSort
variable {α : Type} {r : α → α → Prop} [DecidableRel r] {ins : α → List α → List α}

/-- `ins x` puts `x` behind the leading elements `y` with `r y x` -/
structure IsInsert (r : α → α → Prop) [DecidableRel r] (ins : α → List α → List α) : Prop where
  nil : ∀ x, ins x [] = [x]
  cons : ∀ x y t, ins x (y :: t) = if r y x then y :: ins x t else x :: y :: t

abbrev sort (ins : α → List α → List α) (l : List α) : List α := l.foldl (fun acc x => ins x acc) []

namespace IsInsert
variable (h : IsInsert r ins)
include h

theorem perm (x : α) (l : List α) : (ins x l).Perm (x :: l) := by
  induction l with
  | nil => rw [h.nil]
  | cons y t ih =>
    rw [h.cons]
    split
    · exact (ih.cons y).trans (List.Perm.swap x y t)
    · exact List.Perm.refl _

theorem sorted (total : ∀ a b, r a b ∨ r b a) (trans : ∀ a b c, r a b → r b c → r a c)
    (x : α) (l : List α) (hl : l.Pairwise r) : (ins x l).Pairwise r := by
  induction l with
  | nil => rw [h.nil]; exact List.pairwise_singleton ..
  | cons y t ih =>
    obtain ⟨hy, ht⟩ := List.pairwise_cons.mp hl
    rw [h.cons]
    split
    · next hyx =>
      refine List.pairwise_cons.mpr ⟨fun z hz => ?_, ih ht⟩
      rcases List.mem_cons.mp ((h.perm x t).mem_iff.mp hz) with rfl | hz
      · exact hyx
      · exact hy z hz
    · next hyx =>
      have hxy : r x y := (total x y).resolve_right hyx
      refine List.pairwise_cons.mpr ⟨fun z hz => ?_, hl⟩
      rcases List.mem_cons.mp hz with rfl | hz
      · exact hxy
      · exact trans _ _ _ hxy (hy z hz)

theorem foldl_perm (l acc : List α) : (l.foldl (fun acc x => ins x acc) acc).Perm (l ++ acc) := by
  induction l generalizing acc with
  | nil => exact List.Perm.refl _
  | cons a t ih =>
    exact (ih (ins a acc)).trans ((List.Perm.append_left t (h.perm a acc)).trans List.perm_middle)

theorem sort_perm (l : List α) : (sort ins l).Perm l := by
  simpa using h.foldl_perm l []

theorem sort_sorted (total : ∀ a b, r a b ∨ r b a) (trans : ∀ a b c, r a b → r b c → r a c) (l : List α) :
    (sort ins l).Pairwise r := by
  suffices ∀ acc : List α, acc.Pairwise r → (l.foldl (fun acc x => ins x acc) acc).Pairwise r from
    this [] List.Pairwise.nil
  induction l with
  | nil => exact fun _ hacc => hacc
  | cons a t ih => exact fun acc hacc => ih _ (h.sorted total trans a acc hacc)

end IsInsert
end Crng.InsertionSort
