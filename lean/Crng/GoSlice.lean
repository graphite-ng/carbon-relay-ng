/-! Go slice headers over shared backing arrays; snapshot isolation of copy-on-write updates (C18). -/
namespace Crng.GoSlice

/-- slice header with offset 0 (all table slices are `x`, `x[:i]`, `x[:i:i]` or results of append on those) -/
structure Hdr where
  arr : Nat
  len : Nat
  cap : Nat
  deriving Repr, DecidableEq

/-- heap: array id ↦ cells (length = cap of that array) -/
abbrev Heap (α : Type) := List (List α)

def cells (h : Heap α) (a : Nat) : List α := h.getD a []
def view (h : Heap α) (s : Hdr) : List α := (cells h s.arr).take s.len

/-- header well-formed w.r.t. the heap: len ≤ cap ≤ size of its backing array -/
def WF (h : Heap α) (s : Hdr) : Prop := s.len ≤ s.cap ∧ s.cap ≤ (cells h s.arr).length ∧ s.arr < h.length

/-! The safe updates change the heap in two ways only: they allocate an array (`h ++ [c]`), or `append` in place overwrites
    one cell of one array (`h.set a ((cells h a).set n x)`). -/
section
variable {α : Type} {h : Heap α} {p : Hdr} {a n : Nat}

theorem cells_append_lt (c : List α) (ha : a < h.length) : cells (h ++ [c]) a = cells h a := by
  simp [cells, List.getD, List.getElem?_append_left ha]
theorem cells_append_new (h : Heap α) (c : List α) : cells (h ++ [c]) h.length = c := by
  simp [cells, List.getD]
/-- unconditional: if array `a` does not exist, nothing is set and `cells h a = []` -/
theorem cells_write (h : Heap α) (a n : Nat) (x : α) (b : Nat) :
    cells (h.set a ((cells h a).set n x)) b = if b = a then (cells h a).set n x else cells h b := by
  unfold cells
  by_cases hb : b = a
  · subst hb
    by_cases ha : b < h.length
    · simp [List.getD, List.getElem?_set_self ha]
    · rw [List.set_eq_of_length_le (Nat.le_of_not_lt ha)]
      simp [List.getD, List.getElem?_eq_none (Nat.le_of_not_lt ha)]
  · simp [List.getD, hb, List.getElem?_set_ne (Ne.symm hb)]

theorem view_length (w : WF h p) : (view h p).length = p.len := by
  rw [view, List.length_take]; exact Nat.min_eq_left (Nat.le_trans w.1 w.2.1)

theorem view_append_heap (c : List α) (hp : p.arr < h.length) : view (h ++ [c]) p = view h p := by
  rw [view, cells_append_lt c hp, view]
theorem WF.append_heap (w : WF h p) (c : List α) : WF (h ++ [c]) p :=
  ⟨w.1, by rw [cells_append_lt c w.2.2]; exact w.2.1, Nat.lt_of_lt_of_le w.2.2 (by simp)⟩
theorem new_hdr (h : Heap α) {c v : List α} {cap : Nat} (hv : c.take n = v) (hn : n ≤ cap) (hc : cap ≤ c.length) :
    view (h ++ [c]) ⟨h.length, n, cap⟩ = v ∧ WF (h ++ [c]) ⟨h.length, n, cap⟩ :=
  ⟨by rw [view, cells_append_new]; exact hv, hn, by rw [cells_append_new]; exact hc, by simp⟩

theorem view_write_le (x : α) (hle : p.arr = a → p.len ≤ n) :
    view (h.set a ((cells h a).set n x)) p = view h p := by
  rw [view, cells_write]
  split
  · next hpa => rw [List.take_set_of_le (hle hpa), view, hpa]
  · rfl
theorem view_write_succ (x : α) (cap : Nat) (hn : n < (cells h a).length) :
    view (h.set a ((cells h a).set n x)) ⟨a, n + 1, cap⟩ = view h ⟨a, n, cap⟩ ++ [x] := by
  simp only [view, cells_write, if_true]
  rw [List.take_add_one, List.take_set_of_le (Nat.le_refl n), List.getElem?_set_self hn]
  rfl
theorem WF.write (w : WF h p) (a n : Nat) (x : α) : WF (h.set a ((cells h a).set n x)) p := by
  refine ⟨w.1, ?_, by rw [List.length_set]; exact w.2.2⟩
  rw [cells_write]
  split
  · next hpa => rw [List.length_set]; exact hpa ▸ w.2.1
  · exact w.2.1

end

/-- the update idioms found in table.go / route.go -/
inductive Op (α : Type) where
  | appendElem (x : α)        -- conf.xs = append(conf.xs, x)
  | deleteInPlace (i : Nat)   -- conf.xs = append(conf.xs[:i], conf.xs[i+1:]...)
  | deleteFull (i : Nat)      -- conf.xs = append(conf.xs[:i:i], conf.xs[i+1:]...)
  | fresh (xs : List α)       -- conf.xs = make(...) / a newly built slice
  deriving Repr

def safe : Op α → Bool
  | .deleteInPlace _ => false
  | _ => true

variable {α : Type} [Inhabited α]

/-- Go's `append(s, x)`: in place when len < cap, else a fresh array with `slack` spare cells -/
def goAppend (slack : Nat) (h : Heap α) (s : Hdr) (x : α) : Heap α × Hdr :=
  if s.len < s.cap then
    (h.set s.arr ((cells h s.arr).set s.len x), { s with len := s.len + 1 })
  else
    (h ++ [view h s ++ [x] ++ List.replicate slack default], { arr := h.length, len := s.len + 1, cap := s.len + 1 + slack })

def step (slack : Nat) (st : Heap α × Hdr) : Op α → Heap α × Hdr
  | .appendElem x => goAppend slack st.1 st.2 x
  | .deleteInPlace i =>
      let v := view st.1 st.2
      let c := cells st.1 st.2.arr
      (st.1.set st.2.arr ((v.take i ++ v.drop (i+1)) ++ c.drop (st.2.len - 1)), { st.2 with len := st.2.len - 1 })
  | .deleteFull i =>
      let v := view st.1 st.2
      if st.2.len ≤ i + 1 then
        -- nothing to append: the result is `s[:i:i]` itself, on the same array, with cap = len
        (st.1, { st.2 with len := min i st.2.len, cap := min i st.2.len })
      else
        let v' := v.take i ++ v.drop (i+1)
        (st.1 ++ [v' ++ List.replicate slack default], { arr := st.1.length, len := v'.length, cap := v'.length + slack })
  | .fresh xs => (st.1 ++ [xs], { arr := st.1.length, len := xs.length, cap := xs.length })

/-- all headers point into the heap; an in-place append can never hit a cell some published header sees -/
structure Inv (h : Heap α) (cur : Hdr) (pubs : List Hdr) : Prop where
  curIn : cur.arr < h.length
  pubIn : ∀ p ∈ pubs, p.arr < h.length
  room : cur.len < cur.cap → ∀ p ∈ pubs, p.arr = cur.arr → p.len ≤ cur.len

section
variable {h : Heap α} {cur : Hdr} {pubs : List Hdr}

omit [Inhabited α] in
theorem Inv.arr_lt (inv : Inv h cur pubs) : ∀ p ∈ cur :: pubs, p.arr < h.length :=
  List.forall_mem_cons.2 ⟨inv.curIn, inv.pubIn⟩

omit [Inhabited α] in
/-- moving to a newly allocated array: nothing published can be on it, so `room` holds whatever its spare capacity -/
theorem Inv.alloc (inv : Inv h cur pubs) (c : List α) (n cap : Nat) :
    (∀ p ∈ cur :: pubs, view (h ++ [c]) p = view h p) ∧ Inv (h ++ [c]) ⟨h.length, n, cap⟩ (cur :: pubs) :=
  ⟨fun p hp => view_append_heap c (inv.arr_lt p hp), by simp,
    fun p hp => Nat.lt_of_lt_of_le (inv.arr_lt p hp) (by simp),
    fun _ p hp hpa => absurd hpa (Nat.ne_of_lt (inv.arr_lt p hp))⟩

/-- All that is used of `append`, `r` being its result: what it does to its own header, to the headers published so far,
    to the size of the heap, and to a header on another array. In place the cell written is `s.len`: `Inv.room` says exactly
    that no published header on that array reaches it, and `WF h s` that the cell exists. -/
structure AppendSpec (h : Heap α) (s : Hdr) (x : α) (r : Heap α × Hdr) : Prop where
  self : WF h s → view r.1 r.2 = view h s ++ [x] ∧ WF r.1 r.2
  pubs : ∀ {pubs}, Inv h s pubs → (∀ p ∈ s :: pubs, view r.1 p = view h p) ∧ Inv r.1 r.2 (s :: pubs)
  grow : h.length ≤ r.1.length
  frame : ∀ {p}, WF h p → p.arr ≠ s.arr → view r.1 p = view h p ∧ WF r.1 p ∧ p.arr ≠ r.2.arr

theorem goAppend_spec (slack : Nat) (h : Heap α) (s : Hdr) (x : α) : AppendSpec h s x (goAppend slack h s x) := by
  unfold goAppend
  split
  · next hroom =>
    refine ⟨fun ws => ?_, fun {pubs} inv => ?_, by simp,
      fun wp hne => ⟨view_write_le x fun e => absurd e hne, wp.write .., hne⟩⟩
    · have ws' : WF h { s with len := s.len + 1 } := ⟨hroom, ws.2.1, ws.2.2⟩
      exact ⟨view_write_succ x s.cap (Nat.lt_of_lt_of_le hroom ws.2.1), ws'.write ..⟩
    · have hle : ∀ p ∈ s :: pubs, p.arr = s.arr → p.len ≤ s.len :=
        List.forall_mem_cons.2 ⟨fun _ => Nat.le_refl _, inv.room hroom⟩
      exact ⟨fun p hp => view_write_le x (hle p hp), by simpa using inv.curIn,
        fun p hp => by simpa using inv.arr_lt p hp, fun _ p hp hpa => Nat.le_succ_of_le (hle p hp hpa)⟩
  · refine ⟨fun ws => ?_, fun inv => inv.alloc .., by simp,
      fun wp _ => ⟨view_append_heap _ wp.2.2, wp.append_heap _, Nat.ne_of_lt wp.2.2⟩⟩
    have hl : (view h s ++ [x]).length = s.len + 1 := by rw [List.length_append, view_length ws]; rfl
    refine new_hdr h (List.take_left' hl) (Nat.le_add_right ..) ?_
    rw [List.length_append, hl, List.length_replicate]; exact Nat.le_refl _

/-- one safe step: every header published so far (and the current one) keeps its view; the invariant is re-established -/
theorem step_safe (slack : Nat) (inv : Inv h cur pubs) (op : Op α) (hs : safe op = true) :
    let r := step slack (h, cur) op
    (∀ p ∈ cur :: pubs, view r.1 p = view h p) ∧ Inv r.1 r.2 (cur :: pubs) := by
  cases op with
  | deleteInPlace i => exact absurd hs Bool.false_ne_true
  | fresh xs => exact inv.alloc ..
  | appendElem x => exact (goAppend_spec slack h cur x).pubs inv
  | deleteFull i =>
    simp only [step]
    split
    · -- same heap, and a header with len = cap never appends in place
      exact ⟨fun _ _ => rfl, inv.curIn, inv.arr_lt, fun hlt => absurd hlt (Nat.lt_irrefl _)⟩
    · exact inv.alloc ..

end

/-- run a history of updates, publishing each intermediate header -/
def run (slack : Nat) : Heap α × Hdr → List Hdr → List (Op α) → Heap α × Hdr × List Hdr
  | st, pubs, [] => (st.1, st.2, pubs)
  | st, pubs, op :: ops => run slack (step slack st op) (st.2 :: pubs) ops

/-- **C18 core.** If every update idiom in the history is safe, then whatever header a dispatcher loaded at any earlier
    point still shows exactly the elements it showed when it was loaded, after any number of later updates. -/
theorem isolation (slack : Nat) : ∀ (ops : List (Op α)) (h : Heap α) (cur : Hdr) (pubs : List Hdr),
    Inv h cur pubs → (∀ op ∈ ops, safe op = true) →
    ∀ p ∈ cur :: pubs, view (run slack (h, cur) pubs ops).1 p = view h p := by
  intro ops
  induction ops with
  | nil => intro h cur pubs _ _ p _; rfl
  | cons op ops ih =>
    intro h cur pubs inv hs p hp
    obtain ⟨hop, hops⟩ := List.forall_mem_cons.1 hs
    obtain ⟨hv, hinv⟩ := step_safe slack inv op hop
    exact (ih _ _ _ hinv hops p (List.mem_cons_of_mem _ hp)).trans (hv p hp)

end Crng.GoSlice

/-- the unsafe idiom really breaks it: `[1,2,3]`, delete index 0 in place — the old header now shows `[2,3,3]` -/
example : Crng.GoSlice.view (Crng.GoSlice.step (α := Nat) 0 ([[1, 2, 3]], ⟨0, 3, 3⟩) (.deleteInPlace 0)).1 ⟨0, 3, 3⟩ = [2, 3, 3] := by decide
/-- … and with the full-slice idiom it still shows `[1,2,3]` -/
example : Crng.GoSlice.view (Crng.GoSlice.step (α := Nat) 0 ([[1, 2, 3]], ⟨0, 3, 3⟩) (.deleteFull 0)).1 ⟨0, 3, 3⟩ = [1, 2, 3] := by decide

/-! the slice updates refine the list operations (C18: "the table view reflects exactly the sequence of changes") -/
namespace Crng.GoSlice
variable {α : Type} [Inhabited α]

/-- the list operation an update idiom stands for -/
def specOp (l : List α) : Op α → List α
  | .appendElem x => l ++ [x]
  | .deleteInPlace i => l.eraseIdx i
  | .deleteFull i => l.eraseIdx i
  | .fresh xs => xs

theorem step_view (slack : Nat) {h : Heap α} {cur : Hdr} (wf : WF h cur) (op : Op α) (hs : safe op = true) :
    let r := step slack (h, cur) op
    view r.1 r.2 = specOp (view h cur) op ∧ WF r.1 r.2 := by
  cases op with
  | deleteInPlace i => exact absurd hs Bool.false_ne_true
  | fresh xs => exact new_hdr h (List.take_length ..) (Nat.le_refl _) (Nat.le_refl _)
  | appendElem x => exact (goAppend_spec slack h cur x).self wf
  | deleteFull i =>
    simp only [step, specOp]
    split
    · next hle =>
      -- `s[:i:i]` on the old array: `i` is the last index or beyond it
      refine ⟨?_, Nat.le_refl _, Nat.le_trans (Nat.min_le_right ..) (Nat.le_trans wf.1 wf.2.1), wf.2.2⟩
      rw [List.eraseIdx_eq_take_drop_succ, List.drop_of_length_le (by rw [view_length wf]; exact hle), List.append_nil,
        view, view, List.take_take]
    · rw [← List.eraseIdx_eq_take_drop_succ]
      exact new_hdr h (List.take_left' rfl) (Nat.le_add_right ..) (by simp)

/-- the published view after any history of safe updates is the list obtained by the corresponding list operations -/
theorem run_view (slack : Nat) : ∀ (ops : List (Op α)) (h : Heap α) (cur : Hdr) (pubs : List Hdr), WF h cur →
    (∀ op ∈ ops, safe op = true) →
    view (run slack (h, cur) pubs ops).1 (run slack (h, cur) pubs ops).2.1 = ops.foldl specOp (view h cur) := by
  intro ops
  induction ops with
  | nil => intro h cur pubs _ _; rfl
  | cons op ops ih =>
    intro h cur pubs wf hs
    obtain ⟨hop, hops⟩ := List.forall_mem_cons.1 hs
    obtain ⟨hv, hwf⟩ := step_view slack wf op hop
    exact (ih _ _ _ hwf hops).trans (congrArg (ops.foldl specOp) hv)

end Crng.GoSlice
