import Crng.Sorted
/-! validate/ordered.go (C19). -/
namespace Crng.Ord
abbrev Bytes := List UInt8

/-- the global map `hash(name) ↦ newest accepted timestamp`; a missing key reads as 0 -/
abbrev M := List (Nat × Nat)
def get (m : M) (k : Nat) : Nat := ((m.find? (·.1 == k)).map (·.2)).getD 0
def set (m : M) (k v : Nat) : M := (k, v) :: m.filter (·.1 != k)

/-- `Ordered(key, ts)`: accept iff strictly newer -/
def ordered (hash : Bytes → Nat) (m : M) (key : Bytes) (ts : Nat) : M × Bool :=
  if ts > get m (hash key) then (set m (hash key) ts, true) else (m, false)

theorem get_nil (k : Nat) : get [] k = 0 := rfl
theorem get_set_same (m : M) (k v : Nat) : get (set m k v) k = v := by simp [get, set]
theorem get_set_other (m : M) {k k' : Nat} (v : Nat) (h : k' ≠ k) : get (set m k v) k' = get m k' := by
  have h1 : (k == k') = false := by simp; omega
  simp only [get, set, List.find?_cons, h1, Assoc.find?_filter_ne m h]

theorem ordered_accept (hash : Bytes → Nat) {m : M} {key : Bytes} {ts : Nat} (h : get m (hash key) < ts) :
    ordered hash m key ts = (set m (hash key) ts, true) := if_pos h
theorem ordered_reject (hash : Bytes → Nat) {m : M} {key : Bytes} {ts : Nat} (h : ts ≤ get m (hash key)) :
    ordered hash m key ts = (m, false) := if_neg (Nat.not_lt.mpr h)

theorem accept_iff_newer (hash : Bytes → Nat) (m : M) (key : Bytes) (ts : Nat) :
    (ordered hash m key ts).2 = true ↔ get m (hash key) < ts := by
  rcases Nat.lt_or_ge (get m (hash key)) ts with h | h
  · simp [ordered_accept hash h, h]
  · simp [ordered_reject hash h, Nat.not_lt.mpr h]

theorem get_ordered (hash : Bytes → Nat) (name : Bytes) (hinj : ∀ k, hash k = hash name → k = name) (m : M) (k : Bytes)
    (ts : Nat) : get (ordered hash m k ts).1 (hash name) =
      if k = name ∧ (ordered hash m k ts).2 = true then ts else get m (hash name) := by
  rcases Nat.lt_or_ge (get m (hash k)) ts with h | h
  · rw [ordered_accept hash h]
    by_cases hk : k = name
    · simp [hk, get_set_same]
    · simp [hk, get_set_other _ _ fun he => hk (hinj k he.symm)]
  · simp [ordered_reject hash h]

/-- run a history; returns the accept/reject decisions -/
def run (hash : Bytes → Nat) : M → List (Bytes × Nat) → List Bool
  | _, [] => []
  | m, (k, ts) :: es => (ordered hash m k ts).2 :: run hash (ordered hash m k ts).1 es

/-- timestamps accepted for `name`, in acceptance order -/
def accepted (hash : Bytes → Nat) (name : Bytes) : M → List (Bytes × Nat) → List Nat
  | _, [] => []
  | m, (k, ts) :: es =>
    if k = name ∧ (ordered hash m k ts).2 = true then ts :: accepted hash name (ordered hash m k ts).1 es
    else accepted hash name (ordered hash m k ts).1 es

/-- everything accepted later for a name is above the value stored for it, and strictly increasing -/
theorem accepted_above (hash : Bytes → Nat) (name : Bytes) (hinj : ∀ k, hash k = hash name → k = name) :
    ∀ (es : List (Bytes × Nat)) (m : M),
      (∀ t ∈ accepted hash name m es, get m (hash name) < t) ∧ (accepted hash name m es).Pairwise (· < ·)
  | [], _ => ⟨fun _ ht => (nomatch ht), .nil⟩
  | (k, ts) :: es, m => by
    obtain ⟨ih1, ih2⟩ := accepted_above hash name hinj es (ordered hash m k ts).1
    rw [get_ordered hash name hinj] at ih1
    rw [accepted]
    split
    · rename_i hacc
      rw [if_pos hacc] at ih1
      have hts : get m (hash name) < ts := hacc.1 ▸ (accept_iff_newer hash m k ts).mp hacc.2
      exact ⟨List.forall_mem_cons.mpr ⟨hts, fun t ht => Nat.lt_trans hts (ih1 t ht)⟩, List.pairwise_cons.mpr ⟨ih1, ih2⟩⟩
    · rename_i hacc
      rw [if_neg hacc] at ih1
      exact ⟨ih1, ih2⟩

/-- **C19 core.** If the hash is injective on the names of the history, the timestamps accepted for each name are
    strictly increasing, whatever the interleaving of names. -/
theorem accepted_strictly_increasing (hash : Bytes → Nat) (name : Bytes) (hinj : ∀ k, hash k = hash name → k = name)
    (es : List (Bytes × Nat)) : (accepted hash name [] es).Pairwise (· < ·) :=
  (accepted_above hash name hinj es []).2

/-- a point strictly newer than what is stored for its name is accepted -/
theorem newer_accepted (hash : Bytes → Nat) (m : M) (key : Bytes) (ts : Nat) (h : get m (hash key) < ts) :
    (ordered hash m key ts).2 = true := (accept_iff_newer hash m key ts).mpr h

/-- the hypothesis is needed: with a collision a newer point of one name is rejected because of another name -/
example : (run (fun _ => 0) [] [([1], 10), ([2], 5)]) = [true, false] := by decide
end Crng.Ord
