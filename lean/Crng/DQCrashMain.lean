import Crng.DQCrash
/-! C08: every crash snapshot logged by any history is recoverable. `Mid` is the invariant between the steps of an event,
    `Bd` the one at the select of the io loop. -/
namespace Crng.DQ

/-- status of the metadata on disk relative to the in-memory read file -/
inductive Status (cfg : Cfg) (s : St) : Prop where
  | same (h1 : (loadMem s.disk).rfn = s.mem.rfn) (hod : ∀ r ∈ s.g.synced, OnDisk s.disk r)
  | behind (h1 : (loadMem s.disk).rfn + 1 = s.mem.rfn) (hns : s.mem.needSync = true)
      (hmiss : segGet s.disk (loadMem s.disk).rfn = none)
      (hlt : (loadMem s.disk).rfn < (loadMem s.disk).wfn)
      (hod : ∀ r ∈ s.g.synced, (loadMem s.disk).rfn < r.file → OnDisk s.disk r)
      (hcnt : ∀ old new, s.g.synced = old ++ new → (∀ r ∈ old, r.file = (loadMem s.disk).rfn) → old.length ≤ s.g.dsince)

structure Mid (cfg : Cfg) (s : St) : Prop where
  inv : Inv cfg s s.g.pend
  depth : s.mem.depth = s.g.pend.length
  recov : Recov cfg s.disk s.g.synced
  /-- what was pending at the last rename, less what was handed over since, is still pending -/
  pre : s.g.synced.drop s.g.dsince <+: s.g.pend
  /-- the metadata on disk names the read file, or lags it by exactly the one file a `get` has just removed
      (then a sync is requested, and recovery skips that file) -/
  status : Status cfg s
  /-- a pending record that ends its file: the sync at that rollover has already put the next file into the metadata -/
  w2 : ∀ r ∈ s.g.pend, (r.next cfg).1 = r.file + 1 → r.file + 1 ≤ (loadMem s.disk).wfn
  /-- the write position in the metadata is not ahead of the one in memory -/
  mle : Le ((loadMem s.disk).wfn, (loadMem s.disk).wpos) (s.mem.wfn, s.mem.wpos)
  logok : LogOK cfg s

theorem Status.recG {cfg : Cfg} {s : St} (h : Status cfg s) (hr : Recov cfg s.disk s.g.synced) : RecG cfg s.disk s.g := by
  cases h with
  | same _ hod => exact .all hr hod
  | behind _ _ hmiss hlt hod hcnt => exact .skip hr hmiss hlt hod hcnt

/-- what `Mid` reads of a state apart from `inv` and `needSync` (which may only be raised) -/
def St.rest (s : St) : Nat × Nat × Nat × Int × Disk × Ghost × Log :=
  (s.mem.rfn, s.mem.wfn, s.mem.wpos, s.mem.depth, s.disk, s.g, s.log)

theorem Mid.congr {cfg : Cfg} {s s' : St} (h : Mid cfg s) (hi : Inv cfg s' s.g.pend) (e : s'.rest = s.rest)
    (en : s'.mem.needSync = true ∨ s'.mem.needSync = s.mem.needSync) : Mid cfg s' := by
  simp only [St.rest, Prod.mk.injEq] at e
  obtain ⟨e1, e3, e4, e5, ed, eg, el⟩ := e
  exact {
    inv := by rw [eg]; exact hi
    depth := by rw [e5, eg]; exact h.depth
    recov := by rw [ed, eg]; exact h.recov
    pre := by rw [eg]; exact h.pre
    status := by
      cases h.status with
      | same h1 hod => exact .same (by rw [ed, e1]; exact h1) (by rw [ed, eg]; exact hod)
      | behind h1 hns hmiss hlt hod hcnt =>
        exact .behind (by rw [ed, e1]; exact h1) (by rcases en with en | en; exact en; rw [en]; exact hns)
          (by rw [ed]; exact hmiss) (by rw [ed]; exact hlt) (by rw [ed, eg]; exact hod) (by rw [ed, eg]; exact hcnt)
    w2 := by rw [ed, eg]; exact h.w2
    mle := by rw [ed, e3, e4]; exact h.mle
    logok := by unfold LogOK; rw [el]; exact h.logok }

theorem Mid.same_of_nosync {cfg : Cfg} {s : St} (h : Mid cfg s) (hn : s.mem.needSync = false) :
    (loadMem s.disk).rfn = s.mem.rfn ∧ ∀ r ∈ s.g.synced, OnDisk s.disk r := by
  cases h.status with
  | same h1 hod => exact ⟨h1, hod⟩
  | behind _ hns _ _ _ _ => rw [hn] at hns; cases hns

/-- a sync from any state that is consistent, has an exact depth and whose current disk is recoverable -/
theorem sync_mid_of_recG {cfg : Cfg} {s : St} (hinv : Inv cfg s s.g.pend) (hdepth : s.mem.depth = s.g.pend.length)
    (hrg : RecG cfg s.disk s.g) (hlogok : LogOK cfg s) : Mid cfg (sync s) := by
  -- recovery reads the metadata file and the segments, not the tmp file
  have hrgT : ∀ t, RecG cfg { s.disk with tmp := t } s.g := fun t => by
    cases hrg with
    | all h hod => exact .all (h.congr rfl) hod
    | skip h hmiss hlt hod hcnt => exact .skip (h.congr rfl) hmiss hlt hod hcnt
  have hload := loadMem_sync s (hdepth ▸ Int.natCast_nonneg _)
  have hod : ∀ r ∈ s.g.pend, OnDisk (syncDisk s) r := fun r hr => (hinv.ondisk r hr).of_segs rfl
  rw [sync_eq] at hload ⊢
  have hrec : Recov cfg (syncDisk s) s.g.pend := ⟨by rw [hload]; exact hinv.chain, hinv.small⟩
  exact { inv := hinv.congr rfl
          depth := hdepth
          recov := hrec
          pre := List.prefix_refl _
          status := .same (by rw [hload]; rfl) hod
          -- a record that rolls the file ends before the write position, which is the one now in the metadata
          w2 := by rw [hload]; exact fun r hr hn => hn ▸ (chain_mem hinv.chain r hr).2.fst_le
          mle := by rw [hload]; exact Le.refl _
          logok := by
            refine logOK_cons (logOK_cons (logOK_cons ?_ (hrgT _)) (hrgT _)) (.all hrec hod)
            split
            · exact logOK_cons hlogok hrg
            · exact hlogok }

theorem sync_mid {cfg : Cfg} {s : St} (h : Mid cfg s) : Mid cfg (sync s) := sync_mid_of_recG h.inv h.depth (h.status.recG h.recov) h.logok

theorem tickCount_mid {cfg : Cfg} {s : St} (h : Mid cfg s) : Mid cfg (tickCount cfg s) :=
  tickCount_ind (fun _ _ hn => h.congr (h.inv.congr rfl) rfl hn) fun _ => sync_mid

/-- boundary invariant: what holds whenever the io loop waits in its select -/
structure Bd (cfg : Cfg) (s : St) : Prop where
  mid : Mid cfg s
  ready : Ready cfg s s.g.pend
  nosync : s.mem.needSync = false

theorem Mid.setAhead {cfg : Cfg} {s : St} {o : Bool} {d : Bytes} {p : Nat × Nat} (h : Mid cfg s)
    (hi : Inv cfg (s.setAhead o d p) s.g.pend) : Mid cfg (s.setAhead o d p) :=
  h.congr hi rfl (Or.inr rfl)

theorem loopTop_bd {cfg : Cfg} {s : St} {fuel : Nat} (hf : 0 < fuel) (h : Mid cfg s) :
    Bd cfg (loopTop cfg fuel s) := by
  obtain ⟨o, d, p, e, hi, hr⟩ := loopTop_spec hf h.inv
  rw [e]
  rw [← tickCount_pend cfg s] at hi hr
  exact ⟨(tickCount_mid h).setAhead hi, hr, tickCount_needSync cfg s⟩

/-- bounds of the synced records relative to the in-memory write position -/
theorem synced_before_write {cfg : Cfg} {s : St} (h : Mid cfg s) :
    ∀ r ∈ s.g.synced, r.file < s.mem.wfn ∨ (r.file = s.mem.wfn ∧ r.stop ≤ s.mem.wpos) := by
  -- both sides are `Le` on positions: the record stops before the write position in the metadata, which lies before the one in memory
  exact fun r hr => Le.trans (a := (r.file, r.stop)) (chain_bound h.recov.chain r hr).2 h.mle

theorem recG_all_of {cfg : Cfg} {s : St} (h : Mid cfg s) {D : Disk} (hm : D.metaF = s.disk.metaF)
    (hod : ∀ r ∈ s.g.synced, OnDisk D r) {g : Ghost} (hg : g.synced = s.g.synced) : RecG cfg D g :=
  .all (hg ▸ h.recov.congr hm) (hg ▸ hod)

/-- the synced records lie before the write position, so the data write leaves them alone -/
theorem writeDisk_synced {cfg : Cfg} {s : St} (m : Bytes) (h : Bd cfg s) : ∀ r ∈ s.g.synced, OnDisk (writeDisk s m) r :=
  fun r hr => writeDisk_keeps s m r ((h.mid.same_of_nosync h.nosync).2 r hr) (synced_before_write h.mid r hr)

/-- the crash entries written while the record goes to disk are all recoverable -/
theorem writeData_logok {cfg : Cfg} {s : St} (m : Bytes) (h : Bd cfg s) :
    ∀ e ∈ (⟨"write.data", writeDisk s m, writeGhost s m⟩ :: (openWrite s).log : Log), CrashOK cfg e := by
  obtain ⟨_, hod⟩ := h.mid.same_of_nosync h.nosync
  refine logOK_cons ?_ (recG_all_of h.mid (writeDisk_meta s m) (writeDisk_synced m h) rfl)
  rcases openWrite_log s with hl | hl <;> rw [hl]
  · exact h.mid.logok
  · exact logOK_cons h.mid.logok (recG_all_of h.mid (openWrite_meta s) (fun r hr => openWrite_ondisk s r (hod r hr)) rfl)

theorem finishRoll_mid {cfg : Cfg} {s : St} (h : Mid cfg s) : Mid cfg (finishRoll s) :=
  h.congr (h.inv.congr rfl) rfl (Or.inr rfl)

theorem writeOne_mid {cfg : Cfg} {s : St} (m : Bytes) (hm : m.length < 2147483648) (h : Bd cfg s) :
    Mid cfg (writeOne cfg s m) := by
  have hW := h.mid.inv.written m hm
  have hlog := writeData_logok m h
  have hod2 := writeDisk_synced m h
  obtain ⟨hsame, _⟩ := h.mid.same_of_nosync h.nosync
  have hl : loadMem (writeDisk s m) = loadMem s.disk := loadMem_congr _ _ (writeDisk_meta s m)
  have hdepth : s.mem.depth + 1 = ((s.g.pend ++ [newRec s m]).length : Int) := by rw [h.mid.depth]; simp
  rw [writeOne_eq]
  split
  · -- rollover: the state before the sync is consistent, and the sync makes everything written so far the synced state
    rename_i hroll
    have hR := hW.congr (written_core_roll hroll)
    rw [writeData_eq] at hR ⊢
    exact finishRoll_mid (sync_mid_of_recG hR hdepth (recG_all_of h.mid (writeDisk_meta s m) hod2 rfl) hlog)
  · rename_i hroll
    have hF := hW.congr (written_core_fit hroll)
    rw [writeData_eq] at hF ⊢
    exact { inv := hF
            depth := hdepth
            recov := h.mid.recov.congr (writeDisk_meta s m)
            pre := List.IsPrefix.trans h.mid.pre (List.prefix_append _ _)
            status := .same (by rw [hl]; exact hsame) hod2
            -- the new record does not roll the file
            w2 := by
              rw [hl]
              intro r hr hn
              rcases List.mem_append.mp hr with hr | hr
              · exact h.mid.w2 r hr hn
              · rw [List.mem_singleton.mp hr, Rec.next_fit (r := newRec s m) hroll] at hn
                exact absurd hn (Nat.ne_of_lt (Nat.lt_succ_self _))
            mle := by rw [hl]; exact h.mid.mle.trans (Or.inr ⟨rfl, by show s.mem.wpos ≤ s.mem.wpos + 4 + m.length; omega⟩)
            logok := hlog }

theorem moveForward_mid {cfg : Cfg} {s : St} {r : Rec} {rs : List Rec} (h : Bd cfg s) (hp : s.g.pend = r :: rs) :
    Mid cfg (moveForward s) := by
  have hinv : Inv cfg s (r :: rs) := hp ▸ h.mid.inv
  have hready : Ready cfg s (r :: rs) := hp ▸ h.ready
  obtain ⟨hsame, hod⟩ := h.mid.same_of_nosync h.nosync
  have hdep : s.mem.depth = ((r :: rs).length : Int) := hp ▸ h.mid.depth
  have hpre : s.g.synced.drop (s.g.dsince + 1) <+: rs := drop_succ_prefix_tail _ _ r rs (hp ▸ h.mid.pre)
  -- what both branches share: the ghost hands out `r`; the metadata file and the write position stay
  have pop : ∀ s' : St, s'.g = { s.g with pend := rs, dsince := s.g.dsince + 1 } → s'.disk.metaF = s.disk.metaF →
      (s'.mem.wfn, s'.mem.wpos, s'.mem.depth) = (s.mem.wfn, s.mem.wpos, s.mem.depth - 1) →
      Inv cfg s' rs → Status cfg s' → LogOK cfg s' → Mid cfg s' := by
    intro s' eg em ew hi hst hlog
    have hl := loadMem_congr _ _ em
    simp only [Prod.mk.injEq] at ew
    exact { inv := by rw [eg]; exact hi
            depth := by rw [eg, ew.2.2, hdep]; simp
            recov := by rw [eg]; exact h.mid.recov.congr em
            pre := by rw [eg]; exact hpre
            status := hst
            w2 := by rw [eg, hl]; exact fun r' hr' => h.mid.w2 r' (by rw [hp]; exact List.mem_cons_of_mem _ hr')
            mle := by rw [hl, ew.1, ew.2.1]; exact h.mid.mle
            logok := hlog }
  have hinv2 := mfState_inv hinv hready
  have htl : s.g.pend.tail = rs := by rw [hp]; rfl
  rw [moveForward_exact hinv hready hdep]
  by_cases hne : s.mem.rfn = s.mem.nrfn
  · rw [mfState_kept hne] at hinv2 ⊢
    exact pop _ (htl ▸ rfl) rfl rfl hinv2 (.same (hsame.trans hne) hod) h.mid.logok
  · rw [mfState_removed hne] at hinv2 ⊢
    obtain ⟨hroll, hnew, hlater⟩ := hinv.next_file hready hne
    have hlm : loadMem (mfRemoved s).disk = loadMem s.disk := loadMem_congr _ _ rfl
    have hst : Status cfg (mfRemoved s) := by
      refine .behind ?_ rfl ?_ ?_ ?_ ?_ <;> rw [hlm, hsame]
      · exact hnew.symm
      · exact segGet_segRemove_same _ _
      · -- the rollover sync came before the removal
        have := h.mid.w2 r (by rw [hp]; exact List.mem_cons_self ..) hroll
        rw [hinv.head_pos.1] at this
        exact this
      · exact fun x hx hfx => (hod x hx).segRemove (Nat.ne_of_gt hfx)
      · -- the synced records not yet handed out are pending, so they lie in later files than the one removed
        exact fun old new e1 e2 => length_le_of_drop ⟨new, e1.symm⟩ e2 fun x hx hfx => Nat.ne_of_gt (hlater x (hpre.subset hx)) hfx
    exact pop _ (htl ▸ rfl) rfl rfl hinv2 hst
      (logOK_cons h.mid.logok (hst.recG (h.mid.recov.congr rfl)))

theorem reopen_mid {cfg : Cfg} {s : St} (h : Bd cfg s) :
    Mid cfg { mem := loadMem (closeQ s).disk, disk := (closeQ s).disk, log := (closeQ s).log, g := (closeQ s).g } := by
  have h0 : Mid cfg { s with mem := { s.mem with readOpen := false, writeOpen := false } } :=
    h.mid.congr (h.mid.inv.congr rfl) rfl (Or.inr rfl)
  -- the reopened state is `closeQ s`, the sync of the state of `h0`, with its memory reloaded from the metadata just
  -- written: same positions and depth, `needSync = false`, nothing read ahead
  rw [loadMem_closeQ s (h.mid.depth ▸ Int.natCast_nonneg _)]
  exact (sync_mid h0).congr (by rw [closeQ, sync_pend]; exact h.mid.inv.reopen _ _) (by rw [closeQ, sync_eq]; rfl)
    (Or.inr (by rw [closeQ, sync_eq]; rfl))

/-- every event keeps the boundary invariant; in particular every crash snapshot logged so far is recoverable -/
theorem step_bd {cfg : Cfg} {s : St} (e : Ev) (h : Bd cfg s) (hsm : smallEv e) : Bd cfg (stepEv cfg s e).1 := by
  cases e with
  | put m =>
    exact loopTop_bd (fuelOf_pos _) (writeOne_mid m hsm h)
  | get =>
    cases hp : s.g.pend with
    | nil => rw [stepEv_get_nil (hp ▸ h.mid.inv)]; exact h
    | cons r rs =>
      rw [stepEv_get_cons (r := r) (rs := rs) (hp ▸ h.mid.inv)]
      exact loopTop_bd (fuelOf_pos _) (moveForward_mid h hp)
  | reopen =>
    exact loopTop_bd (fuelOf_pos _) (reopen_mid h)

theorem fresh_mid (cfg : Cfg) : Mid cfg { mem := loadMem {}, disk := {}, log := [], g := {} } :=
  { inv := fresh_inv cfg
    depth := rfl
    recov := ⟨rfl, fun r hr => by cases hr⟩
    pre := by simp
    status := .same rfl (fun r hr => by cases hr)
    w2 := fun r hr => by cases hr
    mle := Le.refl _
    logok := fun e he => by cases he }

theorem fresh_bd (cfg : Cfg) : Bd cfg (openQ cfg {} []) :=
  loopTop_bd (fuelOf_pos _) (fresh_mid cfg)

theorem run_bd (cfg : Cfg) : ∀ (es : List Ev) (s : St), Bd cfg s → (∀ e ∈ es, smallEv e) → Bd cfg (runEvs cfg s es) := by
  intro es
  induction es with
  | nil => intro s h _; exact h
  | cons e es ih =>
    intro s h hsm
    exact ih _ (step_bd e h (hsm e (List.mem_cons_self ..))) (fun e he => hsm e (List.mem_cons_of_mem _ he))

/-- **C08.** Start from an empty directory, run any history of enqueue / dequeue / clean-restart events with any segment
    size and sync frequency, and stop the process after any filesystem mutation (= any entry of the crash log).
    Reopening the directory as it was at that instant terminates and delivers exactly the records that were pending at
    the last completed metadata rename (`synced`), in order and byte-for-byte, except that at most the `k ≤ dsince`
    oldest of them — records already handed to the consumer since that rename — may be skipped. -/
theorem c08_crash_recovery (cfg : Cfg) (es : List Ev) (hsm : ∀ e ∈ es, smallEv e) :
    ∀ e ∈ (runEvs cfg (openQ cfg {} []) es).log,
      ∃ k fuel, k ≤ e.g.dsince ∧ drain cfg fuel (openQ cfg e.disk []) = ((e.g.synced.drop k).map (·.msg), true) :=
  (run_bd cfg es _ (fresh_bd cfg) hsm).mid.logok

#print axioms c08_crash_recovery
end Crng.DQ
