import Crng.CodePrelude
/-! Closed forms (hand-written) of what the regenerated functions of `Crng.Gen.Code` compute: the trace of
`Table.Dispatch`, `Table.DispatchAggregate`, the carbon routes' `Dispatch` and `Aggregator.AddMaybe` as plain list
expressions, and loop lemmas for `forRange`. the `Crng.Tie.Code*` modules prove the regenerated definitions equal to these;
the statements of C01 / C02 / C11 / C19 about the order of the stages are then read off the closed forms.

A bare `simp only []` in a tie proof rewrites with nothing: it zeta-reduces the `let`s of the generated definition and turns
its destructuring `let (a, b) := e` into projections of `e`, so that the following `rw` finds its pattern. -/
namespace Crng.CodeSpec
open Crng.Code

def inc (name : String) : Ev := Ev.call name 0 [arg (1 : Int)]

theorem forRange_cons_next {α σ ρ : Type} {body : α → σ → Res (Step σ ρ)} {x : α} {xs : List α} {s s' : σ} {t : List Ev}
    (h : body x s = (t, Step.next s')) :
    forRange body (x :: xs) s = (t ++ (forRange body xs s').1, (forRange body xs s').2) := by
  simp [forRange, h, Res.bind]
theorem forRange_cons_ret {α σ ρ : Type} {body : α → σ → Res (Step σ ρ)} {x : α} {xs : List α} {s : σ} {r : ρ} {t : List Ev}
    (h : body x s = (t, Step.ret r)) : forRange body (x :: xs) s = (t, Out.ret r) := by
  simp [forRange, h, Res.bind, Res.pure]
theorem forRange_cons_brk {α σ ρ : Type} {body : α → σ → Res (Step σ ρ)} {x : α} {xs : List α} {s s' : σ} {t : List Ev}
    (h : body x s = (t, Step.brk s')) : forRange (ρ := ρ) body (x :: xs) s = (t, Out.done s') := by
  simp [forRange, h, Res.bind, Res.pure]

/-- a loop that returns at the first element satisfying `p`, after emitting `e` -/
theorem forRange_find {α ρ : Type} (p : α → Bool) (e : Ev) (r : ρ) (xs : List α) :
    forRange (fun x (_ : Unit) => if p x = true then emit e (Res.pure (Step.ret r)) else Res.pure (Step.next ())) xs () =
      if xs.any p then ([e], Out.ret r) else ([], Out.done ()) := by
  induction xs with
  | nil => rfl
  | cons x xs ih =>
    cases hp : p x
    · rw [forRange_cons_next (by simp only [hp]; rfl), ih]; simp [hp]
    · rw [forRange_cons_ret (by simp only [hp]; rfl)]; simp [hp, Res.pure]

/-- a loop that only updates its state is a fold -/
theorem forRange_fold {α σ ρ : Type} (g : α → σ → σ) (xs : List α) (s : σ) :
    forRange (ρ := ρ) (fun x s => Res.pure (Step.next (g x s))) xs s = ([], Out.done (xs.foldl (fun s x => g x s) s)) := by
  induction xs generalizing s with
  | nil => rfl
  | cons x xs ih => rw [forRange_cons_next rfl, ih]; rfl

/-- a loop whose every turn goes on to the next: the turns' traces in order -/
theorem forRange_all {α ρ : Type} (body : α → Unit → Res (Step Unit ρ)) (tr : α → List Ev)
    (h : ∀ x, body x () = (tr x, Step.next ())) (xs : List α) :
    forRange body xs () = (xs.flatMap tr, Out.done ()) := by
  induction xs with
  | nil => rfl
  | cons x xs ih => rw [forRange_cons_next (h x), ih]; rfl

/-- a loop over `for i, x := range xs` whose body does not use the index -/
theorem forRange_enum {α σ ρ : Type} (b : Int × α → σ → Res (Step σ ρ)) (g : α → σ → Res (Step σ ρ))
    (h : ∀ i x s, b (i, x) s = g x s) (xs : List α) (s : σ) : forRange b (Lib.enum xs) s = forRange g xs s := by
  have key : ∀ (ps : List (Int × α)) (s : σ), forRange b ps s = forRange g (ps.map (·.2)) s := by
    intro ps s
    induction ps generalizing s with
    | nil => rfl
    | cons p ps ih => simp only [forRange, List.map_cons, h, ih]
  rw [key, Lib.enum_map_snd]

/-- "add each section in file order, stop at the first that fails": the events of the successes before the first failure,
and that failure -/
def tryEach {α β : Type} (f : α → Except Err β) (ev : β → Ev) : List α → List Ev × Option Err
  | [] => ([], none)
  | a :: as => match f a with
    | .error e => ([], some e)
    | .ok b => (ev b :: (tryEach f ev as).1, (tryEach f ev as).2)

/-- the loop body of that shape -/
def tryBody {α β : Type} (f : α → Except Err β) (ev : β → Ev) (a : α) (_ : Unit) : Res (Step Unit Err) :=
  match f a with
  | .error e => Res.pure (Step.ret e)
  | .ok b => emit (ev b) (Res.pure (Step.next ()))

theorem forRange_tryEach {α β : Type} (f : α → Except Err β) (ev : β → Ev) (xs : List α) :
    forRange (tryBody f ev) xs () =
      ((tryEach f ev xs).1, match (tryEach f ev xs).2 with | none => Out.done () | some e => Out.ret e) := by
  induction xs with
  | nil => rfl
  | cons a as ih =>
    cases hf : f a with
    | error e => rw [forRange_cons_ret (by simp only [tryBody, hf]; rfl)]; simp [tryEach, hf]
    | ok b => rw [forRange_cons_next (by simp only [tryBody, hf]; rfl), ih]; simp [tryEach, hf, Res.pure]

/-- the aggregator loop of `Table.Dispatch`: every aggregator is offered the point, in order, until one consumes it -/
def aggTrace (fields : List Bytes) (val : F64) (ts : Int) : List AggregatorI → List Ev × Bool
  | [] => ([], false)
  | a :: as =>
    if (a.AddMaybe fields val ts).2 then ((a.AddMaybe fields val ts).1, true)
    else ((a.AddMaybe fields val ts).1 ++ (aggTrace fields val ts as).1, (aggTrace fields val ts as).2)

theorem aggTrace_snd (fields : List Bytes) (val : F64) (ts : Int) (as : List AggregatorI) :
    (aggTrace fields val ts as).2 = as.any fun a => (a.AddMaybe fields val ts).2 := by
  induction as with
  | nil => rfl
  | cons a as ih => cases h : (a.AddMaybe fields val ts).2 <;> simp [aggTrace, h, ih]

theorem forRange_agg (fields : List Bytes) (val : F64) (ts : Int) (as : List AggregatorI) :
    forRange (fun (a : AggregatorI) (_ : Unit) => Res.bind (a.AddMaybe fields val ts) fun dropRaw =>
        if dropRaw = true then Res.pure (Step.ret ()) else Res.pure (Step.next ())) as () =
      ((aggTrace fields val ts as).1, if (aggTrace fields val ts as).2 then Out.ret () else Out.done ()) := by
  induction as with
  | nil => rfl
  | cons a as ih =>
    cases h : (a.AddMaybe fields val ts).2
    · rw [forRange_cons_next (by simp only [Res.bind, h]; rfl), ih]; simp [aggTrace, h, Res.pure]
    · rw [forRange_cons_ret (by simp only [Res.bind, h]; rfl)]; simp [aggTrace, h, Res.pure]

/-- what the routes do with a line: each route whose filter accepts `name` gets `final`, in table order -/
def routeTrace (name final : Bytes) (rs : List RouteI) : List Ev :=
  (rs.filter (·.Match name)).flatMap fun r => (r.Dispatch final).1

theorem forRange_routes {ρ : Type} (name final : Bytes) (rs : List RouteI) (b : Bool) :
    forRange (ρ := ρ) (fun (r : RouteI) (routed : Bool) =>
        if r.Match name = true then Res.bind (r.Dispatch final) fun _ => Res.pure (Step.next true)
        else Res.pure (Step.next routed)) rs b =
      (routeTrace name final rs, Out.done (b || rs.any (·.Match name))) := by
  induction rs generalizing b with
  | nil => simp [forRange, routeTrace, Res.pure]
  | cons r rs ih =>
    cases h : r.Match name
    · rw [forRange_cons_next (by simp only [h]; rfl), ih]; simp [routeTrace, h]
    · rw [forRange_cons_next (by simp only [h, Res.bind_const]; rfl), ih]; simp [routeTrace, h]

/-- the route loop and the unroutable counter -/
def routeStage (name final : Bytes) (rs : List RouteI) : List Ev :=
  routeTrace name final rs ++ if rs.any (·.Match name) then [] else [inc "table.numUnroutable.Inc"]

/-- the rewriter loop on the field list -/
def rewriteFields (rws : List RewriterI) (fields : List Bytes) : List Bytes :=
  rws.foldl (fun f rw => Lib.set f 0 (rw.Do (Lib.idx f 0))) fields

theorem forRange_rewriters {ρ : Type} (rws : List RewriterI) (fields : List Bytes) :
    forRange (ρ := ρ) (fun rw fields => Res.pure (Step.next (Lib.set fields 0 (rw.Do (Lib.idx fields 0))))) rws fields =
      ([], Out.done (rewriteFields rws fields)) :=
  forRange_fold (fun rw fields => Lib.set fields 0 (rw.Do (Lib.idx fields 0))) rws fields

/-- closed form of `Table.Dispatch` -/
def tableTrace (E : Env) (t : Table) (buf : Bytes) : List Ev :=
  let conf := t.config
  let v := E.m20_ValidatePacket buf conf.Validation_level_legacy.Level conf.Validation_level_m20.Level
  inc "table.numIn.Inc" ::
  if v.2.2.2.isSome then
    [Ev.call "table.bad.Add" 0 [arg v.1, arg buf, arg v.2.2.2], inc "table.numInvalid.Inc"]
  else if conf.Validate_order && (E.validate_Ordered v.1 v.2.2.1).isSome then
    [Ev.call "table.bad.Add" 0 [arg v.1, arg buf, arg (E.validate_Ordered v.1 v.2.2.1)], inc "table.numOutOfOrder.Inc"]
  else
    let fields := Lib.bytes_Fields buf
    if conf.blacklist.any (fun m => m.Match (Lib.idx fields 0)) then [inc "table.numBlacklist.Inc"]
    else
      let fields' := rewriteFields conf.rewriters fields
      let ag := aggTrace fields' v.2.1 v.2.2.1 conf.aggregators
      ag.1 ++ if ag.2 then [] else routeStage (Lib.idx fields' 0) (Lib.bytes_Join fields' [32]) conf.routes

/-- closed form of `Table.DispatchAggregate`; `name` is written as in the code: by `Lib.cut_at_byte` it is the text before the
first space, the metric name the route filters of `Table.Dispatch` see as well -/
def aggregateTrace (t : Table) (buf : Bytes) : List Ev :=
  let name := if Lib.bytes_IndexByte buf 32 ≥ 0 then Lib.sliceTo buf (Lib.bytes_IndexByte buf 32) else buf
  routeStage name buf t.config.routes

end Crng.CodeSpec
