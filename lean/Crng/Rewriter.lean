/-! rewriter.go `RW.Do` for literal rules, i.e. Go `bytes.Replace(s, old, new, n)` with non-empty `old` (C04). -/
namespace Crng.Rw
abbrev Bytes := List UInt8

def hasPrefix (s p : Bytes) : Bool := s.take p.length == p

/-- replace the first `n` non-overlapping occurrences of `old` (non-empty), scanning left to right; `none` = all (`n < 0`) -/
def replaceN (old new : Bytes) : Nat → Option Nat → Bytes → Bytes
  | 0, _, s => s
  | _, some 0, s => s
  | fuel + 1, n, s =>
    match s with
    | [] => []
    | c :: t =>
      if hasPrefix s old then new ++ replaceN old new fuel (n.map (· - 1)) (s.drop old.length)
      else c :: replaceN old new fuel n t

def contains (s sub : Bytes) : Bool := (List.range (s.length + 1)).any fun i => hasPrefix (s.drop i) sub

/-- `RW.Do` for a literal rule: skip when the not-clause substring occurs; `max = -1` is `none` -/
def rwDo (old new not : Bytes) (max : Option Nat) (s : Bytes) : Bytes :=
  if !not.isEmpty && contains s not then s else replaceN old new (s.length + 1) max s

theorem replaceN_zero (old new s : Bytes) (fuel : Nat) : replaceN old new fuel (some 0) s = s := by
  cases fuel <;> simp [replaceN]

theorem replaceN_nil (old new : Bytes) (fuel : Nat) (n : Option Nat) : replaceN old new fuel n [] = [] := by
  cases fuel <;> rcases n with _ | _ | k <;> simp [replaceN]

/-- one step of the scan by a rule that may still replace: an occurrence here is replaced and the scan goes on behind it
with one replacement less; otherwise the byte is kept -/
theorem replaceN_cons (old new : Bytes) (fuel : Nat) {n : Option Nat} (hn : n ≠ some 0) (c : UInt8) (t : Bytes) :
    replaceN old new (fuel + 1) n (c :: t) =
      if hasPrefix (c :: t) old then new ++ replaceN old new fuel (n.map (· - 1)) ((c :: t).drop old.length)
      else c :: replaceN old new fuel n t := by
  rcases n with _ | _ | k
  · simp [replaceN]
  · exact absurd rfl hn
  · simp [replaceN]

/-- nothing to replace: unchanged -/
theorem replaceN_absent (old new : Bytes) (hold : old ≠ []) : ∀ (fuel : Nat) (n : Option Nat) (s : Bytes),
    (∀ i, hasPrefix (s.drop i) old = false) → replaceN old new fuel n s = s := by
  intro fuel
  induction fuel with
  | zero => intro n s _; simp [replaceN]
  | succ f ih =>
    intro n s h
    by_cases hn : n = some 0
    · rw [hn, replaceN_zero]
    · cases s with
      | nil => exact replaceN_nil ..
      | cons c t => rw [replaceN_cons old new f hn, show hasPrefix (c :: t) old = false from h 0, if_neg Bool.false_ne_true,
          ih n t fun i => h (i + 1)]

theorem rwDo_not_skips (old new not : Bytes) (max : Option Nat) (s : Bytes) (hn : not ≠ []) (hc : contains s not = true) :
    rwDo old new not max s = s := by
  unfold rwDo
  simp [List.isEmpty_eq_false_iff.mpr hn, hc]

theorem hasPrefix_append (old post : Bytes) : hasPrefix (old ++ post) old = true := by
  simp [hasPrefix]

/-- **left-to-right, non-overlapping**: if the first occurrence of `old` in the name is after `pre` (no occurrence starts
inside `pre`), a rule that may still replace (`n ≠ 0`) rewrites exactly that occurrence and continues after it with one
replacement less — the scan never looks back into the replaced text -/
theorem replaceN_first (old new : Bytes) (hold : old ≠ []) (post : Bytes) (f : Nat) (n : Option Nat) (hn : n ≠ some 0) :
    ∀ (pre : Bytes), (∀ i, i < pre.length → hasPrefix ((pre ++ old ++ post).drop i) old = false) →
      replaceN old new (pre.length + f + 1) n (pre ++ old ++ post) = pre ++ new ++ replaceN old new f (n.map (· - 1)) post := by
  intro pre
  induction pre with
  | nil =>
    intro _
    cases hs : old ++ post with
    | nil => simp at hs; exact absurd hs.1 hold
    | cons c t =>
      have hp : hasPrefix (c :: t) old = true := by rw [← hs]; exact hasPrefix_append old post
      rw [List.nil_append, hs, replaceN_cons old new _ hn, if_pos hp, ← hs]
      simp
  | cons c p ih =>
    intro hno
    have h0 : hasPrefix (c :: (p ++ old ++ post)) old = false := by
      have := hno 0 (by simp)
      simpa using this
    have ih' := ih (fun i hi => by have := hno (i + 1) (by simp; omega); simpa using this)
    have e : (c :: p).length + f + 1 = (p.length + f + 1) + 1 := by simp; omega
    rw [e, List.cons_append, List.cons_append, replaceN_cons old new _ hn, h0, if_neg Bool.false_ne_true, ih']
    simp

end Crng.Rw
