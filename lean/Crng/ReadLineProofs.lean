import Crng.ReadLine
import Crng.Lines
namespace Crng.RL
open Crng.Lines (split_line takeWhile_eq_self takeWhile_line drop_line take_line drop_line_add)

theorem window_eq (size : Nat) (pend src : Bytes) (h : pend.length ≤ size) :
    pend ++ src.take (size - pend.length) = (pend ++ src).take size := by
  rw [List.take_append, List.take_of_length_le h]

theorem rest_eq (size : Nat) (pend src : Bytes) (h : pend.length ≤ size) :
    src.drop (size - pend.length) = (pend ++ src).drop size := by
  rw [List.drop_append, List.drop_of_length_le h, List.nil_append]

/-- **AMQP**: when every line of the body fits the buffer, the consume loop dispatches exactly the newline-delimited lines
of the body (CR of terminated lines removed, a final unterminated line included), each once, in order -/
theorem readLines_spec (size : Nat) : ∀ (f : Nat) (pend src : Bytes), pend.length ≤ size → (pend ++ src).length < f →
    Fits size f (pend ++ src) → readLines size f pend src = specLines f (pend ++ src) := by
  intro f
  induction f with
  | zero => intro pend src _ hl _; omega
  | succ f ih =>
    intro pend src hp hl hfit
    obtain ⟨hline, hrest⟩ := hfit
    simp only [readLines, specLines]
    rw [window_eq size pend src hp, rest_eq size pend src hp]
    generalize pend ++ src = s at *
    rcases split_line s with hs | ⟨l, r, hn, rfl⟩
    · -- no newline: the whole stream is shorter than the buffer
      rw [takeWhile_eq_self hs] at hline
      rw [List.take_of_length_le (Nat.le_of_lt hline), takeWhile_eq_self hs, if_neg (Nat.lt_irrefl _),
        if_neg (Nat.not_le_of_lt hline), if_neg (Nat.lt_irrefl _)]
    · -- a newline in the stream: it lies inside the window, which ends `k` bytes after it
      rw [takeWhile_line hn] at hline hrest
      rw [drop_line] at hrest
      obtain ⟨k, rfl⟩ : ∃ k, size = l.length + 1 + k := ⟨size - (l.length + 1), by omega⟩
      rw [take_line, drop_line_add, takeWhile_line hn, takeWhile_line hn, drop_line, drop_line,
        if_pos (by simp), if_neg (by simp), if_pos (by simp)]
      have hk : (r.take k).length ≤ l.length + 1 + k := by simp; omega
      rw [ih (r.take k) (r.drop k) hk (by simp at hl ⊢; omega) (by rw [List.take_append_drop]; exact hrest),
        List.take_append_drop]

theorem amqp_whole_lines (size : Nat) (body : Bytes) (hfit : Fits size (body.length + 2) body) :
    amqpTokens size body = spec body := by
  unfold amqpTokens spec
  have := readLines_spec size (body.length + 2) [] body (Nat.zero_le _) (by simp) (by simpa using hfit)
  simpa using this

end Crng.RL
