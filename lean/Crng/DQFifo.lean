import Crng.DQInv
import Crng.DQMeta
/-! Every operation keeps `Inv`, and C09: the queue refines a list FIFO. -/
namespace Crng.DQ

theorem Inv.setAhead {cfg : Cfg} {s : St} {r : Rec} {rs : List Rec} (h : Inv cfg s (r :: rs)) (o : Bool) :
    Inv cfg (s.setAhead o r.msg (r.next cfg)) (r :: rs) :=
  { chain := h.chain, ondisk := h.ondisk, small := h.small, ahead := Or.inr ⟨r, rs, rfl, rfl, rfl⟩ }

/-- with a pending record at the read position, `readOne` succeeds and loads exactly that record -/
theorem readOne_inv {cfg : Cfg} {s : St} {r : Rec} {rs : List Rec} (h : Inv cfg s (r :: rs)) :
    ∃ o, readOne cfg s = some (s.setAhead o r.msg (r.next cfg)) := by
  obtain ⟨hf, ho⟩ := h.head_pos
  obtain ⟨c, rest, hc, hd⟩ := h.ondisk r (List.mem_cons_self ..)
  have hdec := decodeAt_of_drop c r.off r.msg rest (h.small r (List.mem_cons_self ..)) hd
  have hstop : r.stop = s.mem.rpos + 4 + r.msg.length := by rw [Rec.stop, ho]
  rw [ho] at hdec
  rw [hf] at hc
  unfold readOne
  simp only [hc, hdec]
  -- the reader rolls on the same test as `Rec.next`
  by_cases hroll : r.stop > cfg.maxBytes
  · rw [Rec.next_roll hroll, hf, if_pos (hstop ▸ hroll)]; exact ⟨false, rfl⟩
  · rw [Rec.next_fit hroll, hf, hstop, if_neg (hstop ▸ hroll)]; exact ⟨true, rfl⟩

/-- from a consistent state no read error occurs, so after `tickCount` only the read-ahead can change -/
theorem loopTop_spec {cfg : Cfg} {s : St} {recs : List Rec} {fuel : Nat} (hf : 0 < fuel) (h : Inv cfg s recs) : ∃ o d p,
    loopTop cfg fuel s = (tickCount cfg s).setAhead o d p ∧
    Inv cfg ((tickCount cfg s).setAhead o d p) recs ∧ Ready cfg ((tickCount cfg s).setAhead o d p) recs := by
  obtain ⟨fuel, rfl⟩ : ∃ k, fuel = k + 1 := ⟨fuel - 1, by omega⟩
  have h1 : Inv cfg (tickCount cfg s) recs := h.congr (tickCount_core cfg s)
  unfold loopTop
  generalize tickCount cfg s = s1 at h1
  simp only []
  split
  · rename_i hc
    cases recs with
    | nil => simp [h1.hasData_nil] at hc
    | cons r rs =>
      obtain ⟨o, hs'⟩ := readOne_inv h1
      rw [hs']
      exact ⟨o, r.msg, r.next cfg, rfl, h1.setAhead o, fun _ _ he => by cases he; exact ⟨rfl, rfl⟩⟩
  · -- nothing is read: either nothing is pending, or a record was read ahead earlier and by `ahead` it is the head record
    rename_i hc
    refine ⟨s1.mem.readOpen, s1.mem.dataRead, (s1.mem.nrfn, s1.mem.nrpos), rfl, h1, ?_⟩
    intro r rs he
    subst he
    rcases h1.ahead with ⟨_, h2⟩ | ⟨r', rs', he, hdat, hn⟩
    · simp [h1.hasData_cons, h2] at hc
    · cases he; exact ⟨hdat, hn⟩

theorem loopTop_inv {cfg : Cfg} {s : St} {recs : List Rec} {fuel : Nat} (hf : 0 < fuel) (h : Inv cfg s recs) :
    Inv cfg (loopTop cfg fuel s) recs ∧ Ready cfg (loopTop cfg fuel s) recs := by
  obtain ⟨o, d, p, e, hi, hr⟩ := loopTop_spec hf h
  rw [e]; exact ⟨hi, hr⟩

/-- consistent, next message loaded, depth exact -/
structure Full (cfg : Cfg) (s : St) (recs : List Rec) : Prop where
  inv : Inv cfg s recs
  ready : Ready cfg s recs
  depth : s.mem.depth = recs.length

theorem loopTop_full {cfg : Cfg} {s : St} {recs : List Rec} {fuel : Nat} (hf : 0 < fuel) (h : Inv cfg s recs)
    (hd : s.mem.depth = recs.length) : Full cfg (loopTop cfg fuel s) recs := by
  obtain ⟨o, d, p, e, hi, hr⟩ := loopTop_spec hf h
  rw [e]
  exact ⟨hi, hr, (tickCount_depth cfg s).trans hd⟩

/-- `s` after the record `newRec s m` has gone to disk and the write position has moved past it, to the next file if
    the writer rolls -/
def St.written (cfg : Cfg) (s : St) (m : Bytes) : St :=
  { s with mem := { s.mem with wfn := ((newRec s m).next cfg).1, wpos := ((newRec s m).next cfg).2 }, disk := writeDisk s m }

/-- the writer rolls on the same test as `Rec.next` of the new record -/
theorem written_core_roll {cfg : Cfg} {s : St} {m : Bytes} (h : s.mem.wpos + 4 + m.length > cfg.maxBytes) :
    (rollState (writeData s m)).core = (s.written cfg m).core := by
  rw [writeData_eq, St.written, Rec.next_roll (r := newRec s m) h]; rfl

theorem written_core_fit {cfg : Cfg} {s : St} {m : Bytes} (h : ¬ s.mem.wpos + 4 + m.length > cfg.maxBytes) :
    (writeData s m).core = (s.written cfg m).core := by
  rw [writeData_eq, St.written, Rec.next_fit (r := newRec s m) h]; rfl

theorem writeOne_depth (cfg : Cfg) (s : St) (m : Bytes) : (writeOne cfg s m).mem.depth = s.mem.depth + 1 := by
  rw [writeOne_eq]; split <;> simp only [finishRoll, sync_depth, rollState, writeData_eq]

theorem openWrite_ondisk (s : St) (r : Rec) (h : OnDisk s.disk r) : OnDisk (openWrite s).disk r := by
  obtain ⟨d, l, e, _, hs, _⟩ := openWrite_eq s
  obtain ⟨c, rest, h1, h2⟩ := h
  exact ⟨c, rest, e ▸ hs _ c h1, h2⟩

/-- a record that lies before the write position survives the data write -/
theorem writeDisk_keeps (s : St) (m : Bytes) (r : Rec) (h : OnDisk s.disk r)
    (hb : r.file < s.mem.wfn ∨ (r.file = s.mem.wfn ∧ r.stop ≤ s.mem.wpos)) : OnDisk (writeDisk s m) r := by
  obtain ⟨c, rest, h1, h2⟩ := openWrite_ondisk s r h
  unfold writeDisk
  by_cases hf : r.file = s.mem.wfn
  · rw [hf] at h1
    have hstop : r.off + (encode r.msg).length ≤ s.mem.wpos := by
      simp only [encode_length]
      rcases hb with hb | hb
      · omega
      · simp [Rec.stop] at hb; omega
    obtain ⟨rest', hk⟩ := writeAt_keeps c s.mem.wpos r.off (encode m) (encode r.msg) rest h2 hstop (by rw [encode_length]; omega)
    refine ⟨_, rest', by rw [hf]; exact segGet_segSet_same _ _ _, ?_⟩
    simp [h1, hk]
  · exact ⟨c, rest, by rw [segGet_segSet_other _ _ _ _ hf]; exact h1, h2⟩

theorem Inv.written {cfg : Cfg} {s : St} {recs : List Rec} (m : Bytes) (hm : m.length < 2147483648)
    (h : Inv cfg s recs) : Inv cfg (s.written cfg m) (recs ++ [newRec s m]) where
  chain := chain_append (newRec s m) h.chain rfl
  ondisk := by
    intro r hr
    rcases List.mem_append.mp hr with hr | hr
    · exact writeDisk_keeps s m r (h.ondisk r hr) (chain_bound h.chain r hr).2
    · rw [List.mem_singleton.mp hr]; exact ⟨_, _, segGet_segSet_same _ _ _, writeAt_drop_pos _ _ _⟩
  small := by
    intro r hr
    rcases List.mem_append.mp hr with hr | hr
    · exact h.small r hr
    · rw [List.mem_singleton.mp hr]; exact hm
  ahead := by
    rcases h.ahead with hh | ⟨r, rs, he, h1, h2⟩
    · exact Or.inl hh
    · exact Or.inr ⟨r, rs ++ [_], by rw [he]; rfl, h1, h2⟩

theorem writeOne_inv {cfg : Cfg} {s : St} {recs : List Rec} (m : Bytes) (hm : m.length < 2147483648)
    (h : Inv cfg s recs) : Inv cfg (writeOne cfg s m) (recs ++ [newRec s m]) := by
  refine (h.written m hm).congr ?_
  rw [writeOne_eq]; split
  · rename_i h; exact (finishRoll_core _).trans ((sync_core _).trans (written_core_roll h))
  · rename_i h; exact written_core_fit h

/-- `moveForward` when the read file changes: the old segment is removed and a sync is requested -/
def mfRemoved (s : St) : St :=
  ({ { s with mem := { s.mem with rfn := s.mem.nrfn, rpos := s.mem.nrpos, depth := s.mem.depth - 1 },
              g := { s.g with pend := s.g.pend.tail, dsince := s.g.dsince + 1 } } with
      mem := { { s.mem with rfn := s.mem.nrfn, rpos := s.mem.nrpos, depth := s.mem.depth - 1 } with needSync := true },
      disk := segRemove s.disk s.mem.rfn } : St).crash "read.remove"
/-- `moveForward` inside one file -/
def mfKept (s : St) : St :=
  { s with mem := { s.mem with rfn := s.mem.nrfn, rpos := s.mem.nrpos, depth := s.mem.depth - 1 },
           g := { s.g with pend := s.g.pend.tail, dsince := s.g.dsince + 1 } }
/-- the state after `moveForward`, before the tail check -/
def mfState (s : St) : St := if s.mem.rfn != s.mem.nrfn then mfRemoved s else mfKept s

theorem mfState_removed {s : St} (h : s.mem.rfn ≠ s.mem.nrfn) : mfState s = mfRemoved s := if_pos (by simpa using h)
theorem mfState_kept {s : St} (h : s.mem.rfn = s.mem.nrfn) : mfState s = mfKept s := if_neg (by simpa using h)

theorem Inv.next_file {cfg : Cfg} {s : St} {r : Rec} {rs : List Rec} (h : Inv cfg s (r :: rs)) (hr : Ready cfg s (r :: rs))
    (hne : s.mem.rfn ≠ s.mem.nrfn) :
    (r.next cfg).1 = r.file + 1 ∧ s.mem.nrfn = s.mem.rfn + 1 ∧ ∀ x ∈ rs, s.mem.rfn < x.file := by
  have hnf : s.mem.nrfn = (r.next cfg).1 := congrArg Prod.fst (hr r rs rfl).2
  have hf := h.head_pos.1
  have hroll : (r.next cfg).1 = r.file + 1 := by
    by_cases h' : r.stop > cfg.maxBytes
    · rw [Rec.next_roll h']
    · rw [Rec.next_fit h'] at hnf; exact absurd (hf.symm.trans hnf.symm) hne
  -- the remaining records start at `r.next`
  exact ⟨hroll, by omega, fun x hx => by have := (chain_bound h.chain.2 x hx).1; omega⟩

theorem mfState_inv {cfg : Cfg} {s : St} {r : Rec} {rs : List Rec} (h : Inv cfg s (r :: rs))
    (hr : Ready cfg s (r :: rs)) : Inv cfg (mfState s) rs := by
  have hchain : Chain cfg (s.mem.nrfn, s.mem.nrpos) rs (s.mem.wfn, s.mem.wpos) := by
    rw [(hr r rs rfl).2]; exact h.chain.2
  have hsmall := fun r' hr' => h.small r' (List.mem_cons_of_mem _ hr')
  by_cases hne : s.mem.rfn = s.mem.nrfn
  · rw [mfState_kept hne]
    exact { chain := hchain, ondisk := fun r' hr' => h.ondisk r' (List.mem_cons_of_mem _ hr'), small := hsmall,
            ahead := Or.inl ⟨rfl, rfl⟩ }
  · rw [mfState_removed hne]
    have hlater := (h.next_file hr hne).2.2
    exact { chain := hchain, small := hsmall, ahead := Or.inl ⟨rfl, rfl⟩
            ondisk := fun r' hr' => (h.ondisk r' (List.mem_cons_of_mem _ hr')).segRemove (Nat.ne_of_gt (hlater r' hr')) }

theorem mfState_depth (s : St) : (mfState s).mem.depth = s.mem.depth - 1 := by
  unfold mfState; split <;> rfl

/-- on a consistent state the tail check can only correct the depth counter -/
theorem checkTail_eq {cfg : Cfg} {s : St} {recs : List Rec} (h : Inv cfg s recs) : checkTail s =
    if recs.isEmpty && s.mem.depth != 0 then { s with mem := { s.mem with depth := 0, needSync := true } } else s := by
  cases recs with
  | cons r rs => unfold checkTail; rw [if_pos h.hasData_cons]; rfl
  | nil =>
    -- an empty chain: the read position is the write position, so the branch that skips to the next file is dead
    have hpos : (s.mem.rfn, s.mem.rpos) = (s.mem.wfn, s.mem.wpos) := h.chain
    simp only [Prod.mk.injEq] at hpos
    unfold checkTail
    simp only [h.hasData_nil, Bool.false_eq_true, if_false, List.isEmpty_nil, Bool.true_and]
    split <;> simp [hpos.1, hpos.2]

theorem checkTail_inv {cfg : Cfg} {s : St} {recs : List Rec} (h : Inv cfg s recs) : Inv cfg (checkTail s) recs := by
  rw [checkTail_eq h]; split
  · exact h.congr rfl
  · exact h

theorem checkTail_exact {cfg : Cfg} {s : St} {recs : List Rec} (h : Inv cfg s recs) (hd : s.mem.depth = recs.length) :
    checkTail s = s := by
  rw [checkTail_eq h, if_neg]
  -- with nothing pending an exact depth is 0
  cases recs <;> simp [hd]

theorem moveForward_eq_checkTail (s : St) : moveForward s = checkTail (mfState s) := by
  unfold moveForward mfState mfRemoved mfKept; rfl

theorem moveForward_inv {cfg : Cfg} {s : St} {r : Rec} {rs : List Rec} (h : Inv cfg s (r :: rs))
    (hr : Ready cfg s (r :: rs)) : Inv cfg (moveForward s) rs :=
  moveForward_eq_checkTail s ▸ checkTail_inv (mfState_inv h hr)

/-- with an exact depth the tail check after `moveForward` does nothing -/
theorem moveForward_exact {cfg : Cfg} {s : St} {r : Rec} {rs : List Rec} (h : Inv cfg s (r :: rs))
    (hr : Ready cfg s (r :: rs)) (hd : s.mem.depth = (r :: rs).length) : moveForward s = mfState s :=
  (moveForward_eq_checkTail s).trans (checkTail_exact (mfState_inv h hr) (by rw [mfState_depth, hd]; simp))

/-- what `loadMem` makes of the metadata written from `m`: depth and positions, nothing read ahead -/
def Mem.reloaded (m : Mem) : Mem :=
  { depth := m.depth, rfn := m.rfn, rpos := m.rpos, wfn := m.wfn, wpos := m.wpos, nrfn := m.rfn, nrpos := m.rpos }

/-- the metadata written by a sync describes exactly the in-memory positions -/
theorem loadMem_sync (s : St) (hd : 0 ≤ s.mem.depth) : loadMem (sync s).disk = s.mem.reloaded := by
  rw [sync_eq]
  simp only [loadMem, syncDisk, Option.bind_some, parse_render s.mem _ hd, Mem.reloaded]

theorem loadMem_closeQ (s : St) (hd : 0 ≤ s.mem.depth) : loadMem (closeQ s).disk = s.mem.reloaded :=
  loadMem_sync { s with mem := { s.mem with readOpen := false, writeOpen := false } } hd

theorem closeQ_segs (s : St) : (closeQ s).disk.segs = s.disk.segs := by
  unfold closeQ; rw [sync_eq]; rfl

theorem Inv.reopen {cfg : Cfg} {s : St} {recs : List Rec} (h : Inv cfg s recs) (log : Log) (g : Ghost) :
    Inv cfg { mem := s.mem.reloaded, disk := (closeQ s).disk, log := log, g := g } recs :=
  { chain := h.chain
    ondisk := fun r hr => (h.ondisk r hr).of_segs (closeQ_segs s)
    small := h.small
    ahead := Or.inl ⟨rfl, rfl⟩ }

/-- a clean close followed by a reopen keeps the pending records -/
theorem reopen_full {cfg : Cfg} {s : St} {recs : List Rec} (log : Log) (g : Ghost) (h : Full cfg s recs) :
    Full cfg (openQ cfg (closeQ s).disk log g) recs := by
  unfold openQ
  rw [loadMem_closeQ s (h.depth ▸ Int.natCast_nonneg _)]
  exact loopTop_full (fuelOf_pos _) (h.inv.reopen log g) h.depth

/-- the abstract queue -/
def specOutputs : List Bytes → List Ev → List (Option Bytes)
  | _, [] => []
  | q, .put m :: es => none :: specOutputs (q ++ [m]) es
  | [], .get :: es => none :: specOutputs [] es
  | x :: q, .get :: es => some x :: specOutputs q es
  | q, .reopen :: es => none :: specOutputs q es

def specQueue : List Bytes → List Ev → List Bytes
  | q, [] => q
  | q, .put m :: es => specQueue (q ++ [m]) es
  | [], .get :: es => specQueue [] es
  | _ :: q, .get :: es => specQueue q es
  | q, .reopen :: es => specQueue q es

def outputs (cfg : Cfg) : St → List Ev → List (Option Bytes)
  | _, [] => []
  | s, e :: es => (stepEv cfg s e).2 :: outputs cfg (stepEv cfg s e).1 es

def runEvs (cfg : Cfg) : St → List Ev → St
  | s, [] => s
  | s, e :: es => runEvs cfg (stepEv cfg s e).1 es

def smallEv : Ev → Prop
  | .put m => m.length < 2147483648
  | _ => True

theorem stepEv_get_nil {cfg : Cfg} {s : St} (h : Inv cfg s []) : stepEv cfg s .get = (s, none) := by
  simp only [stepEv, h.hasData_nil, Bool.false_eq_true, if_false]

theorem stepEv_get_cons {cfg : Cfg} {s : St} {r : Rec} {rs : List Rec} (h : Inv cfg s (r :: rs)) :
    stepEv cfg s .get = (loopTop cfg (fuelOf s.disk) (moveForward s), some s.mem.dataRead) := by
  simp only [stepEv, h.hasData_cons, if_true]

theorem step_full {cfg : Cfg} {s : St} {recs : List Rec} (e : Ev) (h : Full cfg s recs) (hsm : smallEv e) :
    ∃ recs', Full cfg (stepEv cfg s e).1 recs' ∧
      (stepEv cfg s e).2 :: [] = specOutputs (recs.map (·.msg)) [e] ∧
      recs'.map (·.msg) = specQueue (recs.map (·.msg)) [e] := by
  cases e with
  | put m =>
    refine ⟨_, loopTop_full (fuelOf_pos _) (writeOne_inv m hsm h.inv) ?_, rfl, by simp [specQueue, newRec]⟩
    rw [writeOne_depth, h.depth]; simp
  | get =>
    cases recs with
    | nil => rw [stepEv_get_nil h.inv]; exact ⟨[], h, rfl, rfl⟩
    | cons r rs =>
      rw [stepEv_get_cons h.inv, (h.ready r rs rfl).1]
      refine ⟨rs, loopTop_full (fuelOf_pos _) (moveForward_inv h.inv h.ready) ?_, rfl, rfl⟩
      rw [moveForward_exact h.inv h.ready h.depth, mfState_depth, h.depth]; simp
  | reopen =>
    exact ⟨recs, reopen_full _ _ h, rfl, rfl⟩

theorem spec_cons (q : List Bytes) (e : Ev) (es : List Ev) :
    specOutputs q (e :: es) = specOutputs q [e] ++ specOutputs (specQueue q [e]) es ∧
    specQueue q (e :: es) = specQueue (specQueue q [e]) es := by
  cases e <;> cases q <;> exact ⟨rfl, rfl⟩

/-- C09: from any consistent state the queue behaves as the abstract FIFO, through rollovers and clean restarts,
    and its depth counter is the length of the abstract queue -/
theorem fifo_refines (cfg : Cfg) : ∀ (es : List Ev) (s : St) (recs : List Rec),
    Full cfg s recs → (∀ e ∈ es, smallEv e) →
    outputs cfg s es = specOutputs (recs.map (·.msg)) es ∧
    (runEvs cfg s es).mem.depth = (specQueue (recs.map (·.msg)) es).length := by
  intro es
  induction es with
  | nil => intro s recs h _; exact ⟨rfl, by simp [runEvs, specQueue, h.depth]⟩
  | cons e es ih =>
    intro s recs h hsm
    obtain ⟨recs', hf, ho, hq⟩ := step_full e h (hsm e (List.mem_cons_self ..))
    have := ih _ recs' hf (fun e he => hsm e (List.mem_cons_of_mem _ he))
    obtain ⟨c1, c2⟩ := spec_cons (recs.map (·.msg)) e es
    rw [c1, c2, ← ho, ← hq, ← this.1, ← this.2]
    exact ⟨rfl, rfl⟩

theorem fresh_inv (cfg : Cfg) : Inv cfg { mem := loadMem {}, disk := {}, log := [], g := {} } [] :=
  { chain := rfl, ondisk := (fun r hr => by cases hr), small := (fun r hr => by cases hr), ahead := Or.inl ⟨rfl, rfl⟩ }

theorem fresh_full (cfg : Cfg) : Full cfg (openQ cfg {} []) [] :=
  loopTop_full (fuelOf_pos _) (fresh_inv cfg) rfl

theorem c09_fifo (cfg : Cfg) (es : List Ev) (hsm : ∀ e ∈ es, smallEv e) :
    outputs cfg (openQ cfg {} []) es = specOutputs [] es ∧
    (runEvs cfg (openQ cfg {} []) es).mem.depth = (specQueue [] es).length :=
  fifo_refines cfg es _ [] (fresh_full cfg) hsm

#print axioms c09_fifo
end Crng.DQ
