import Crng.DiskQueue
import Crng.Sorted
/-! Lemmas about the disk-queue model alone: the segment map, the record encoding, and for each operation what it does to
    the state. In front, two facts about `List.drop`. -/
namespace Crng.DQ

theorem drop_succ_prefix_tail {α : Type} (l : List α) (d : Nat) (x : α) (xs : List α) (h : l.drop d <+: x :: xs) :
    l.drop (d + 1) <+: xs := by
  rw [← List.tail_drop]
  rcases List.prefix_cons_iff.mp h with e | ⟨t, e, ht⟩
  · rw [e]; exact List.nil_prefix
  · rw [e]; exact ht

theorem length_le_of_drop {α : Type} {P : α → Prop} {l old : List α} {k : Nat} (hp : old <+: l)
    (hold : ∀ x ∈ old, P x) (hdrop : ∀ x ∈ l.drop k, ¬ P x) : old.length ≤ k := by
  obtain ⟨new, rfl⟩ := hp
  refine Nat.le_of_not_lt fun hlt => hdrop old[k] ?_ (hold _ (List.getElem_mem hlt))
  rw [List.drop_append_of_le_length (by omega)]
  exact List.mem_append_left _ (List.mem_iff_getElem.mpr ⟨0, by simp; omega, by simp⟩)

theorem find_insertSorted (n k : Nat) (b : Bytes) (l : List (Nat × Bytes)) :
    (insertSorted n b l).find? (·.1 == k) = if n = k then some (n, b) else l.find? (·.1 == k) := by
  induction l with
  | nil => by_cases h : n = k <;> simp [insertSorted, h]
  | cons hd t ih =>
    obtain ⟨m, c⟩ := hd
    unfold insertSorted
    by_cases h1 : n < m
    · by_cases h : n = k
      · subst h; simp [h1]
      · simp [h1, h, List.find?_cons]
    · by_cases h2 : n = m
      · subst h2; by_cases h : n = k <;> simp [h]
      · by_cases hmk : m = k
        · subst hmk
          simp [h1, h2]
        · simp [h1, h2, hmk, ih]

theorem segGet_segSet_same (d : Disk) (n : Nat) (b : Bytes) : segGet (segSet d n b) n = some b := by
  simp [segGet, segSet, find_insertSorted]

theorem segGet_segSet_other (d : Disk) (n k : Nat) (b : Bytes) (hk : k ≠ n) : segGet (segSet d n b) k = segGet d k := by
  simp [segGet, segSet, find_insertSorted, Ne.symm hk]

theorem segGet_segRemove_other (d : Disk) (n k : Nat) (hk : k ≠ n) : segGet (segRemove d n) k = segGet d k := by
  rw [segGet, segRemove, Crng.Assoc.find?_filter_ne _ hk, segGet]

theorem segGet_segRemove_same (d : Disk) (n : Nat) : segGet (segRemove d n) n = none := by
  simp [segGet, segRemove]

theorem segGet_of_segs (d d' : Disk) (h : d'.segs = d.segs) (n : Nat) : segGet d' n = segGet d n := by
  simp [segGet, h]

theorem be32_length (n : Nat) : (be32 n).length = 4 := rfl
theorem encode_length (m : Bytes) : (encode m).length = 4 + m.length := by simp [encode, be32_length]

theorem be32_value (n : Nat) (hn : n < 4294967296) :
    (UInt8.ofNat (n / 16777216 % 256)).toNat * 16777216 + (UInt8.ofNat (n / 65536 % 256)).toNat * 65536
      + (UInt8.ofNat (n / 256 % 256)).toNat * 256 + (UInt8.ofNat (n % 256)).toNat = n := by
  have u8 : ∀ k, (UInt8.ofNat (k % 256)).toNat = k % 256 := fun k => UInt8.toNat_ofNat_of_lt' (Nat.mod_lt _ (by decide))
  simp only [u8]
  omega

theorem decodeAt_of_drop (c : Bytes) (o : Nat) (m rest : Bytes) (hm : m.length < 2147483648)
    (h : c.drop o = encode m ++ rest) : decodeAt c o = some (m, o + 4 + m.length) := by
  unfold decodeAt
  rw [h]
  simp only [encode, be32, List.cons_append, List.nil_append, be32_value m.length (by omega)]
  simp [Nat.not_le.mpr hm]

theorem writeAt_drop_pos (c : Bytes) (pos : Nat) (data : Bytes) :
    (writeAt c pos data).drop pos = data ++ c.drop (pos + data.length) := by
  -- the part of the result in front of `data` (old bytes, zero padding) is exactly `pos` long
  have hlen : (c.take pos ++ List.replicate (pos - c.length) (0 : UInt8)).length = pos := by
    simp [List.length_take]; omega
  unfold writeAt
  rw [List.append_assoc, List.drop_append_of_le_length (Nat.le_of_eq hlen.symm), List.drop_of_length_le (Nat.le_of_eq hlen)]
  simp

/-- a record that ends at or before `pos` is not disturbed by a write at `pos` -/
theorem writeAt_keeps (c : Bytes) (pos o : Nat) (data x rest : Bytes)
    (h : c.drop o = x ++ rest) (hle : o + x.length ≤ pos) (hx0 : 0 < x.length) :
    ∃ rest', (writeAt c pos data).drop o = x ++ rest' := by
  have hlen : o + x.length ≤ c.length := by
    have := congrArg List.length h
    simp at this; omega
  -- `c` is `pre ++ x ++ rest`, and the write leaves `pre ++ x` alone
  obtain ⟨pre, rfl, rfl⟩ : ∃ pre, pre.length = o ∧ c = pre ++ (x ++ rest) :=
    ⟨c.take o, by simp; omega, by rw [← h, List.take_append_drop]⟩
  refine ⟨rest.take (pos - pre.length - x.length) ++ List.replicate (pos - (pre ++ (x ++ rest)).length) 0 ++ data ++
    (pre ++ (x ++ rest)).drop (pos + data.length), ?_⟩
  have h1 : pre.length ≤ pos := by omega
  have h2 : x.length ≤ pos - pre.length := by omega
  simp [writeAt, List.take_append, List.take_of_length_le h1, List.take_of_length_le h2]

/-- the positions, the read-ahead and the segment files: what the consistency of the queue depends on -/
def St.core (s : St) : (Nat × Nat) × (Nat × Nat) × (Nat × Nat) × Bytes × List (Nat × Bytes) :=
  ((s.mem.rfn, s.mem.rpos), (s.mem.wfn, s.mem.wpos), (s.mem.nrfn, s.mem.nrpos), s.mem.dataRead, s.disk.segs)

theorem persistMeta_mem (s : St) : (persistMeta s).mem = s.mem := rfl
theorem persistMeta_segs (s : St) : (persistMeta s).disk.segs = s.disk.segs := rfl

def syncDisk (s : St) : Disk :=
  { s.disk with metaF := some (renderMeta s.mem ++ (s.disk.tmp.getD []).drop (renderMeta s.mem).length), tmp := none }
def syncGhost (s : St) : Ghost := { s.g with synced := s.g.pend, dsince := 0 }
def syncLog (s : St) : Log :=
  ⟨"meta.rename", syncDisk s, syncGhost s⟩ ::
  ⟨"meta.tmp.write", { s.disk with tmp := some (renderMeta s.mem ++ (s.disk.tmp.getD []).drop (renderMeta s.mem).length) }, s.g⟩ ::
  ⟨"meta.tmp.create", { s.disk with tmp := some (s.disk.tmp.getD []) }, s.g⟩ ::
  (if s.mem.writeOpen then [⟨"sync.data", s.disk, s.g⟩] else []) ++ s.log

theorem sync_eq (s : St) : sync s =
    { mem := { s.mem with needSync := false }, disk := syncDisk s, log := syncLog s, g := syncGhost s } := by
  by_cases hw : s.mem.writeOpen = true <;> simp [sync, persistMeta, syncDisk, syncGhost, syncLog, hw, St.crash]

theorem sync_core (s : St) : (sync s).core = s.core := by rw [sync_eq]; rfl
theorem sync_depth (s : St) : (sync s).mem.depth = s.mem.depth := by rw [sync_eq]
theorem sync_needSync (s : St) : (sync s).mem.needSync = false := by rw [sync_eq]
theorem sync_pend (s : St) : (sync s).g.pend = s.g.pend := by rw [sync_eq]; rfl

/- stated so that no proof has to unify `sync _` with a state wrapped in `finishRoll`: that search is very slow -/
theorem finishRoll_core (s : St) : (finishRoll s).core = s.core := rfl

def St.setCount (s : St) (c : Nat) (n : Bool) : St := { s with mem := { s.mem with count := c, needSync := n } }

theorem tickCount_eq (cfg : Cfg) (s : St) : ∃ c n, (n = true ∨ n = s.mem.needSync) ∧
    tickCount cfg s = if n then sync (s.setCount c n) else s.setCount c n := by
  unfold tickCount
  simp only []
  split
  · exact ⟨0, true, Or.inl rfl, rfl⟩
  · exact ⟨s.mem.count + 1, s.mem.needSync, Or.inr rfl, rfl⟩

/-- what holds of `s` whatever the counter and with `needSync` possibly raised, and is kept by `sync`, holds after `tickCount` -/
theorem tickCount_ind {cfg : Cfg} {s : St} {P : St → Prop}
    (hc : ∀ c n, (n = true ∨ n = s.mem.needSync) → P (s.setCount c n)) (hs : ∀ t, P t → P (sync t)) :
    P (tickCount cfg s) := by
  obtain ⟨c, n, hn, e⟩ := tickCount_eq cfg s
  rw [e]; split
  · exact hs _ (hc c n hn)
  · exact hc c n hn

theorem tickCount_core (cfg : Cfg) (s : St) : (tickCount cfg s).core = s.core :=
  tickCount_ind (P := fun t => t.core = s.core) (fun _ _ _ => rfl) fun t h => (sync_core t).trans h

theorem tickCount_depth (cfg : Cfg) (s : St) : (tickCount cfg s).mem.depth = s.mem.depth :=
  tickCount_ind (P := fun t => t.mem.depth = s.mem.depth) (fun _ _ _ => rfl) fun t h => (sync_depth t).trans h

theorem tickCount_pend (cfg : Cfg) (s : St) : (tickCount cfg s).g.pend = s.g.pend :=
  tickCount_ind (P := fun t => t.g.pend = s.g.pend) (fun _ _ _ => rfl) fun t h => (sync_pend t).trans h

theorem tickCount_needSync (cfg : Cfg) (s : St) : (tickCount cfg s).mem.needSync = false := by
  obtain ⟨c, n, _, e⟩ := tickCount_eq cfg s
  rw [e]; split
  · exact sync_needSync _
  · rename_i hf; exact Bool.eq_false_iff.mpr hf

theorem fuelOf_pos (d : Disk) : 0 < fuelOf d := Nat.succ_pos _
theorem one_lt_fuelOf (d : Disk) : 1 < fuelOf d := Nat.succ_lt_succ (Nat.succ_pos _)

/-- `s` with another read-ahead; `readOne` changes nothing else -/
def St.setAhead (s : St) (o : Bool) (d : Bytes) (p : Nat × Nat) : St :=
  { s with mem := { s.mem with readOpen := o, dataRead := d, nrfn := p.1, nrpos := p.2 } }

/-- the read file is missing and the writer is in a later file: the read fails, `handleReadError` moves on to the next
    file, and the loop goes round again -/
theorem loopTop_skip (cfg : Cfg) {fuel : Nat} (hf : 0 < fuel) (s : St) (hmiss : segGet s.disk s.mem.rfn = none)
    (hlt : s.mem.rfn < s.mem.wfn) (ha : s.mem.nrpos = s.mem.rpos) :
    ∃ s', loopTop cfg fuel s = loopTop cfg (fuel - 1) s' ∧
      s'.core = ((s.mem.rfn + 1, 0), (s.mem.wfn, s.mem.wpos), (s.mem.rfn + 1, 0), s'.mem.dataRead, s.disk.segs) := by
  obtain ⟨fuel, rfl⟩ : ∃ k, fuel = k + 1 := ⟨fuel - 1, by omega⟩
  have tc := tickCount_core cfg s
  simp only [St.core, Prod.mk.injEq] at tc
  obtain ⟨⟨t1, t2⟩, ⟨t3, t4⟩, ⟨_, t6⟩, _, t7⟩ := tc
  generalize hs1 : tickCount cfg s = s1 at t1 t2 t3 t4 t6 t7
  have hd : hasData s1.mem = true := by simp [hasData, t1, t3]; exact Or.inl hlt
  have hp : (s1.mem.nrpos == s1.mem.rpos) = true := by simp [t6, t2, ha]
  have hr : readOne cfg s1 = none := by unfold readOne; rw [t1, segGet_of_segs s.disk _ t7, hmiss]
  have hne : (s.mem.rfn == s.mem.wfn) = false := by simp; omega
  refine ⟨handleReadError { s1 with mem := { s1.mem with readOpen := false } }, ?_, ?_⟩
  · conv => lhs; unfold loopTop
    simp only [hs1, hd, hp, Bool.and_self, if_true, hr, Nat.add_sub_cancel]
  · unfold handleReadError
    simp only [t1, t3, t4, t7, hne, Bool.false_eq_true, if_false, segGet_of_segs s.disk _ t7, hmiss, St.crash, St.core]

/-- `openWrite` sets the flag; if it was not set, the write file is created unless it exists, and the disk is logged -/
theorem openWrite_eq (s : St) : ∃ d l, openWrite s = { mem := { s.mem with writeOpen := true }, disk := d, log := l, g := s.g } ∧
    d.metaF = s.disk.metaF ∧ (∀ n c, segGet s.disk n = some c → segGet d n = some c) ∧
    (l = s.log ∨ l = ⟨"write.open", d, s.g⟩ :: s.log) := by
  unfold openWrite
  split
  · rename_i h
    -- the flag is `true` already: with `s.mem.writeOpen` for `true` the right side is `s` by eta
    exact ⟨s.disk, s.log, by rw [← h], rfl, fun _ _ hc => hc, Or.inl rfl⟩
  · refine ⟨_, _, rfl, ?_, ?_, Or.inr rfl⟩
    · split <;> rfl
    · intro n c hc
      split
      · exact hc
      · rename_i hnone
        rw [segGet_segSet_other _ _ _ _ fun e => by rw [e, hnone] at hc; cases hc]; exact hc

theorem openWrite_meta (s : St) : (openWrite s).disk.metaF = s.disk.metaF := by
  obtain ⟨d, l, e, hm, _⟩ := openWrite_eq s; rw [e]; exact hm

theorem openWrite_log (s : St) : (openWrite s).log = s.log ∨ (openWrite s).log = ⟨"write.open", (openWrite s).disk, s.g⟩ :: s.log := by
  obtain ⟨d, l, e, _, _, hl⟩ := openWrite_eq s; rw [e]; exact hl

def newRec (s : St) (m : Bytes) : Rec := ⟨m, s.mem.wfn, s.mem.wpos⟩
def writeDisk (s : St) (m : Bytes) : Disk :=
  segSet (openWrite s).disk s.mem.wfn (writeAt ((segGet (openWrite s).disk s.mem.wfn).getD []) s.mem.wpos (encode m))
def writeGhost (s : St) (m : Bytes) : Ghost := { s.g with pend := s.g.pend ++ [newRec s m] }

theorem writeData_eq (s : St) (m : Bytes) : writeData s m =
    { mem := { s.mem with writeOpen := true, wpos := s.mem.wpos + 4 + m.length, depth := s.mem.depth + 1 },
      disk := writeDisk s m,
      log := ⟨"write.data", writeDisk s m, writeGhost s m⟩ :: (openWrite s).log,
      g := writeGhost s m } := by
  obtain ⟨d, l, e, _⟩ := openWrite_eq s
  simp only [writeData, St.crash, writeDisk, writeGhost, newRec, e]

theorem writeOne_eq (cfg : Cfg) (s : St) (m : Bytes) : writeOne cfg s m =
    if s.mem.wpos + 4 + m.length > cfg.maxBytes then finishRoll (sync (rollState (writeData s m))) else writeData s m := by
  simp only [writeOne, show (writeData s m).mem.wpos = s.mem.wpos + 4 + m.length by rw [writeData_eq]]

theorem writeDisk_meta (s : St) (m : Bytes) : (writeDisk s m).metaF = s.disk.metaF := openWrite_meta s

end Crng.DQ
