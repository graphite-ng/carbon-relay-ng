/-! badmetrics/badMetrics.go as a sequential map: one goroutine serialises `Add`, the periodic clean and `Get`
through channels, so every history is a sequence of these three operations. Time is a logical clock (Nat). -/
namespace Crng.Bad
abbrev Bytes := List UInt8

structure Rec where
  key : Bytes        -- Metric: the parsed key, or empty on a parse failure
  msg : Bytes        -- LastMsg: the rejected line
  err : String       -- LastErr
  seen : Nat         -- LastSeen
  deriving DecidableEq, Repr

abbrev St := List Rec

inductive Op where
  | add (r : Rec)          -- `b.seen[in.Metric] = in`
  | clean (cutoff : Nat)   -- delete every record with `LastSeen.Before(cutoff)`
  | get (oldest : Nat)     -- records with `LastSeen.After(oldest)`

def step (s : St) : Op → St × Option (List Rec)
  | .add r => (r :: s.filter (fun x => x.key != r.key), none)
  | .clean c => (s.filter (fun x => !(x.seen < c)), none)
  | .get o => (s, some (s.filter (fun x => x.seen > o)))

def run : St → List Op → St
  | s, [] => s
  | s, op :: ops => run (step s op).1 ops

/-- nothing in `ops` overwrites or expires `r`: no add for the same key, every clean has a cutoff not after `r.seen` -/
def Quiet (r : Rec) : List Op → Prop
  | [] => True
  | .add r' :: ops => r'.key ≠ r.key ∧ Quiet r ops
  | .clean c :: ops => c ≤ r.seen ∧ Quiet r ops
  | .get _ :: ops => Quiet r ops

theorem mem_run (r : Rec) : ∀ (ops : List Op) (s : St), r ∈ s → Quiet r ops → r ∈ run s ops
  | [], _, h, _ => h
  | .add _ :: ops, _, h, ⟨hk, hq⟩ =>
    mem_run r ops _ (List.mem_cons_of_mem _ (List.mem_filter.mpr ⟨h, by simpa using fun e => hk e.symm⟩)) hq
  | .clean _ :: ops, _, h, ⟨hc, hq⟩ => mem_run r ops _ (List.mem_filter.mpr ⟨h, by simpa using hc⟩) hq
  | .get _ :: ops, _, h, hq => mem_run r ops _ h hq

/-- one record per name: after any history no two records share a key -/
theorem keys_nodup : ∀ (ops : List Op) (s : St), (s.map (·.key)).Nodup → ((run s ops).map (·.key)).Nodup := by
  intro ops
  induction ops with
  | nil => intro s h; exact h
  | cons op ops ih =>
    intro s h
    apply ih
    have hf : ∀ p, ((s.filter p).map (·.key)).Nodup := fun p => h.sublist (List.filter_sublist.map _)
    cases op with
    | add r => exact List.nodup_cons.mpr ⟨by simp [List.mem_map, List.mem_filter], hf _⟩
    | clean c => exact hf _
    | get o => exact h

end Crng.Bad
