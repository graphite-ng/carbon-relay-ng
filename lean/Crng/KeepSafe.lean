import Crng.GoSlice
/-! destination/keepsafe.go at the level of Go slice headers over shared backing arrays: `Add` appends to `safeRecent`,
    the rotation makes `safeRecent` the old generation and allocates a *fresh* recent one, `GetAll` returns
    `append(safeOld, safeRecent...)` and starts over with two fresh slices.
    The point of modelling headers and arrays: whether the two generations can ever share an array. -/
namespace Crng.KeepSafe
open Crng.GoSlice

structure KS where
  h : Heap Nat
  old : Hdr
  recent : Hdr
  deriving Repr

inductive Op where
  | add (x : Nat)
  | rotate
  | getAll
  deriving Repr

/-- `make([][]byte, 0, cap)` -/
def fresh (h : Heap Nat) (cap : Nat) : Heap Nat × Hdr := (h ++ [List.replicate cap 0], ⟨h.length, 0, cap⟩)

def appendAll (slack : Nat) (h : Heap Nat) (s : Hdr) (xs : List Nat) : Heap Nat × Hdr :=
  xs.foldl (fun st x => goAppend slack st.1 st.2 x) (h, s)

/-- one operation; the second component is what `GetAll` returned -/
def step (slack cap : Nat) (k : KS) : Op → KS × List Nat
  | .add x => let r := goAppend slack k.h k.recent x; ({ k with h := r.1, recent := r.2 }, [])
  | .rotate => let f := fresh k.h cap; ({ h := f.1, old := k.recent, recent := f.2 }, [])
  | .getAll =>
    let r := appendAll slack k.h k.old (view k.h k.recent)
    let f1 := fresh r.1 cap
    let f2 := fresh f1.1 cap
    ({ h := f2.1, old := f1.2, recent := f2.2 }, view r.1 r.2)

/-- the two generations as plain lists -/
def specStep (a : List Nat × List Nat) : Op → (List Nat × List Nat) × List Nat
  | .add x => ((a.1, a.2 ++ [x]), [])
  | .rotate => ((a.2, []), [])
  | .getAll => (([], []), a.1 ++ a.2)

def init (cap : Nat) : KS :=
  let f1 := fresh [] cap
  let f2 := fresh f1.1 cap
  { h := f2.1, old := f1.2, recent := f2.2 }

/-- representation invariant: both headers well-formed, on different arrays, showing the two generations -/
structure Rep (k : KS) (a : List Nat × List Nat) : Prop where
  wfOld : WF k.h k.old
  wfRecent : WF k.h k.recent
  apart : k.old.arr ≠ k.recent.arr
  vOld : view k.h k.old = a.1
  vRecent : view k.h k.recent = a.2

theorem goAppend_heap_len (slack : Nat) (h : Heap Nat) (s : Hdr) (x : Nat) : h.length ≤ (goAppend slack h s x).1.length :=
  (goAppend_spec slack h s x).grow

theorem appendAll_view (slack : Nat) (xs : List Nat) : ∀ (h : Heap Nat) (s : Hdr), WF h s →
    let r := appendAll slack h s xs
    view r.1 r.2 = view h s ++ xs ∧ WF r.1 r.2 := by
  induction xs with
  | nil => intro h s ws; exact ⟨(List.append_nil _).symm, ws⟩
  | cons x xs ih =>
    intro h s ws
    have hs := (goAppend_spec slack h s x).self ws
    have := ih _ _ hs.2
    rwa [hs.1, List.append_assoc] at this

theorem fresh_spec (h : Heap Nat) (cap : Nat) : view (fresh h cap).1 (fresh h cap).2 = [] ∧ WF (fresh h cap).1 (fresh h cap).2 :=
  new_hdr h rfl (Nat.zero_le _) (Nat.le_of_eq List.length_replicate.symm)

/-- the rotation: `recent` becomes `old`, next to a newly made `recent` -/
theorem rep_fresh {h : Heap Nat} {p : Hdr} {l : List Nat} (wp : WF h p) (hv : view h p = l) (cap : Nat) :
    Rep ⟨(fresh h cap).1, p, (fresh h cap).2⟩ (l, []) :=
  ⟨wp.append_heap _, (fresh_spec h cap).2, Nat.ne_of_lt wp.2.2, (view_append_heap _ wp.2.2).trans hv, (fresh_spec h cap).1⟩

theorem rep_init (cap : Nat) : Rep (init cap) ([], []) := rep_fresh (fresh_spec [] cap).2 (fresh_spec [] cap).1 cap

/-- every operation of the slice-level keepSafe does what the two-list description says -/
theorem step_refines (slack cap : Nat) (k : KS) (a : List Nat × List Nat) (r : Rep k a) (op : Op) :
    Rep (step slack cap k op).1 (specStep a op).1 ∧ (step slack cap k op).2 = (specStep a op).2 := by
  cases op with
  | add x =>
    have g := goAppend_spec slack k.h k.recent x
    obtain ⟨hv, hw⟩ := g.self r.wfRecent
    obtain ⟨hvo, hwo, ha⟩ := g.frame r.wfOld r.apart
    exact ⟨⟨hwo, hw, ha, hvo.trans r.vOld, hv.trans (congrArg (· ++ [x]) r.vRecent)⟩, rfl⟩
  | rotate => exact ⟨rep_fresh r.wfRecent r.vRecent cap, rfl⟩
  | getAll =>
    obtain ⟨hv, hw⟩ := appendAll_view slack (view k.h k.recent) k.h k.old r.wfOld
    -- the two `make`s act as two rotations: the first moves the returned slice into `old`, the second pushes it out
    have r1 := rep_fresh hw rfl cap
    exact ⟨rep_fresh r1.wfRecent r1.vRecent cap, hv.trans (by rw [r.vOld, r.vRecent]; rfl)⟩

/-- run a history; collect what the `GetAll`s returned -/
def run (slack cap : Nat) : KS → List Op → KS × List (List Nat)
  | k, [] => (k, [])
  | k, op :: ops => let r := step slack cap k op
                    let rest := run slack cap r.1 ops
                    (rest.1, (match op with | .getAll => [r.2] | _ => []) ++ rest.2)

def specRun : List Nat × List Nat → List Op → (List Nat × List Nat) × List (List Nat)
  | a, [] => (a, [])
  | a, op :: ops => let r := specStep a op
                    let rest := specRun r.1 ops
                    (rest.1, (match op with | .getAll => [r.2] | _ => []) ++ rest.2)

/-- **keepSafe, all histories**: whatever the interleaving of Add, rotation ticks and GetAll, and whatever the growth policy of
    `append`, every GetAll returns exactly the lines added since the rotation before the last one (old ++ recent) -/
theorem run_refines (slack cap : Nat) (ops : List Op) : ∀ (k : KS) (a : List Nat × List Nat), Rep k a →
    (run slack cap k ops).2 = (specRun a ops).2 ∧ Rep (run slack cap k ops).1 (specRun a ops).1 := by
  induction ops with
  | nil => intro k a r; exact ⟨rfl, r⟩
  | cons op ops ih =>
    intro k a r
    obtain ⟨hr, ho⟩ := step_refines slack cap k a r op
    obtain ⟨hos, hrs⟩ := ih _ _ hr
    exact ⟨by simp only [run, specRun, ho, hos], hrs⟩

/-- the aliasing variant (`safeRecent = safeRecent[:0]` on rotation) loses lines: added 1,2 — tick — added 3 — GetAll returns [3,2,3] -/
def stepAlias (slack cap : Nat) (k : KS) : Op → KS × List Nat
  | .rotate => ({ k with old := k.recent, recent := { k.recent with len := 0 } }, [])
  | op => step slack cap k op

example : let k0 := init 4
    let k1 := (stepAlias 0 4 k0 (.add 1)).1
    let k2 := (stepAlias 0 4 k1 (.add 2)).1
    let k3 := (stepAlias 0 4 k2 .rotate).1
    let k4 := (stepAlias 0 4 k3 (.add 3)).1
    (stepAlias 0 4 k4 .getAll).2 = [3, 2, 3] := by decide

end Crng.KeepSafe
