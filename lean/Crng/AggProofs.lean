import Crng.AggCore
import Crng.InsertionSort
import Crng.Sorted
namespace Crng.AggCore
variable {P R : Type}

theorem insertNat_isInsert : InsertionSort.IsInsert (· ≤ · : Nat → Nat → Prop) insertNat := ⟨fun _ => rfl, fun _ _ _ => rfl⟩

theorem sortNat_perm (l : List Nat) : (sortNat l).Perm l := insertNat_isInsert.sort_perm l

theorem sortNat_sorted (l : List Nat) : (sortNat l).Pairwise (· ≤ ·) :=
  insertNat_isInsert.sort_sorted Nat.le_total (fun _ _ _ => Nat.le_trans) l

/-- `AddOrCreate` appends a new bucket's timestamp and calls `sort.Sort` only if that broke the order -/
theorem tsList_insert {l : List Nat} (q : Nat) (h : l.Pairwise (· ≤ ·)) :
    let tl := match l.getLast? with
      | some x => if x > q then sortNat (l ++ [q]) else l ++ [q]
      | none => l ++ [q]
    tl.Perm (q :: l) ∧ tl.Pairwise (· ≤ ·) := by
  have hp := List.perm_append_singleton q l
  cases hl : l.getLast? with
  | none => obtain rfl := List.getLast?_eq_none_iff.mp hl; exact ⟨.refl _, by simp⟩
  | some x =>
    dsimp only
    split
    · exact ⟨(sortNat_perm _).trans hp, sortNat_sorted _⟩
    · -- `q` is not below the last element, so not below any
      obtain ⟨ys, rfl⟩ := List.getLast?_eq_some_iff.mp hl
      refine ⟨hp, List.pairwise_append.mpr ⟨h, by simp, fun a ha b hb => ?_⟩⟩
      obtain rfl := List.mem_singleton.mp hb
      rcases List.mem_append.mp ha with ha | ha
      · have := h.rel_of_mem_append ha (List.mem_singleton_self x); omega
      · obtain rfl := List.mem_singleton.mp ha; omega

def keysOf (aggs : Aggs P) : List Nat := aggs.map (·.1)

theorem mem_keysOf {aggs : Aggs P} {b : Nat} {ks : List (String × P)} (h : (b, ks) ∈ aggs) : b ∈ keysOf aggs :=
  List.mem_map.mpr ⟨_, h, rfl⟩

theorem lookupB_some_mem {aggs : Aggs P} {b : Nat} {ks : List (String × P)} (h : lookupB aggs b = some ks) :
    (b, ks) ∈ aggs :=
  Assoc.mem_of_find? h

theorem lookupB_none_iff {aggs : Aggs P} {b : Nat} : lookupB aggs b = none ↔ b ∉ keysOf aggs := by
  simp only [lookupB, keysOf, Option.map_eq_none_iff, List.find?_eq_none, beq_iff_eq, List.mem_map, not_exists, not_and]

theorem lookupB_append_self {aggs : Aggs P} {b : Nat} (h : lookupB aggs b = none) (ks : List (String × P)) :
    lookupB (aggs ++ [(b, ks)]) b = some ks := by
  simp [lookupB, List.find?_append, Option.map_eq_none_iff.mp h]

theorem lookupB_of_mem (aggs : Aggs P) (b : Nat) (ks : List (String × P)) (hn : (keysOf aggs).Nodup) (h : (b, ks) ∈ aggs) :
    lookupB aggs b = some ks := by
  induction aggs with
  | nil => cases h
  | cons e t ih =>
    obtain ⟨he, ht⟩ := List.nodup_cons.mp hn
    rcases List.mem_cons.mp h with rfl | h
    · simp [lookupB]
    · have hne : e.1 ≠ b := by rintro rfl; exact he (mem_keysOf h)
      simpa [lookupB, List.find?_cons, hne] using ih ht h

theorem any_key_iff {aggs : Aggs P} {b : Nat} : aggs.any (·.1 == b) = true ↔ b ∈ keysOf aggs := by
  simp only [keysOf, List.mem_map, List.any_eq_true, beq_iff_eq]

theorem setB_of_not_mem {aggs : Aggs P} {b : Nat} (h : b ∉ keysOf aggs) (ks : List (String × P)) :
    setB aggs b ks = aggs ++ [(b, ks)] :=
  if_neg (mt any_key_iff.mp h)

theorem keysOf_setB (aggs : Aggs P) (b : Nat) (ks : List (String × P)) :
    keysOf (setB aggs b ks) = if b ∈ keysOf aggs then keysOf aggs else keysOf aggs ++ [b] := by
  unfold setB
  simp only [any_key_iff]
  split
  · exact Assoc.map_fst_overwrite aggs b ks
  · simp [keysOf]

theorem mem_setB {aggs : Aggs P} {b : Nat} {ks : List (String × P)} {b' : Nat} {ks' : List (String × P)} :
    (b', ks') ∈ setB aggs b ks ↔ (b' = b ∧ ks' = ks) ∨ (b' ≠ b ∧ (b', ks') ∈ aggs) := by
  unfold setB
  split
  · rename_i hany
    rw [List.mem_map]
    constructor
    · rintro ⟨e, he, heq⟩
      split at heq
      · cases heq; exact .inl ⟨rfl, rfl⟩
      · rename_i hne; subst heq; exact .inr ⟨by simpa using hne, he⟩
    · rintro (⟨rfl, rfl⟩ | ⟨hne, hm⟩)
      · obtain ⟨e, he, hb⟩ := List.any_eq_true.mp hany
        exact ⟨e, he, by rw [if_pos hb]⟩
      · exact ⟨_, hm, by simp [hne]⟩
  · rename_i hany
    rw [List.mem_append, List.mem_singleton, Prod.mk.injEq]
    constructor
    · rintro (hm | heq)
      · exact .inr ⟨fun hb => hany (List.any_eq_true.mpr ⟨_, hm, by simp [hb]⟩), hm⟩
      · exact .inl heq
    · rintro (heq | ⟨_, hm⟩)
      · exact .inr heq
      · exact .inl hm

theorem forall_mem_setB {aggs : Aggs P} {b : Nat} {ks : List (String × P)} {p : Nat → List (String × P) → Prop}
    (hb : p b ks) (h : ∀ b' ks', (b', ks') ∈ aggs → p b' ks') : ∀ b' ks', (b', ks') ∈ setB aggs b ks → p b' ks' := by
  intro b' ks' hm
  rcases mem_setB.mp hm with ⟨rfl, rfl⟩ | ⟨_, hm⟩
  · exact hb
  · exact h b' ks' hm

theorem keysOf_filter (aggs : Aggs P) (p : Nat → Bool) :
    keysOf (aggs.filter fun e => p e.1) = (keysOf aggs).filter p :=
  List.filter_map.symm

/-- bookkeeping invariant; `L` = largest cutoff flushed so far -/
structure AInv (s : St P) (L : Nat) : Prop where
  sorted : s.tsList.Pairwise (· ≤ ·)
  tsNodup : s.tsList.Nodup
  kNodup : (keysOf s.aggs).Nodup
  same : ∀ b, b ∈ s.tsList ↔ b ∈ keysOf s.aggs
  opened : ∀ b ks, (b, ks) ∈ s.aggs → ks ≠ [] → L < b
  inner : ∀ b ks, (b, ks) ∈ s.aggs → (ks.map (·.1)).Nodup

theorem AInv.empty : AInv ({} : St P) 0 :=
  ⟨.nil, .nil, .nil, fun _ => .rfl, fun _ _ hm => (nomatch hm), fun _ _ hm => (nomatch hm)⟩

/-- Every change `AddOrCreate` makes to the buckets is a `setB`: bucket `q` gets the keys `ks` (distinct, and none
    unless `q` is still open), and `q` is in the timestamp list `tl` afterwards. -/
theorem AInv.setBucket {s : St P} {L q : Nat} {ks : List (String × P)} {tl : List Nat} (h : AInv s L)
    (hks : (ks.map (·.1)).Nodup) (hopen : ks ≠ [] → L < q)
    (hs : tl.Pairwise (· ≤ ·)) (hnd : tl.Nodup) (hmem : ∀ b, b ∈ tl ↔ b = q ∨ b ∈ s.tsList) (n : Nat) :
    AInv ⟨setB s.aggs q ks, tl, n⟩ L where
  sorted := hs
  tsNodup := hnd
  kNodup := by
    rw [keysOf_setB]
    split
    · exact h.kNodup
    · rename_i hq
      exact List.nodup_append.mpr ⟨h.kNodup, by simp, fun a ha b hb => by simp at hb; subst hb; rintro rfl; exact hq ha⟩
  same b := by
    rw [hmem, h.same, keysOf_setB]
    split
    · rename_i hq
      exact or_iff_right_of_imp fun hb => hb ▸ hq
    · simp [or_comm]
  opened := forall_mem_setB hopen h.opened
  inner := forall_mem_setB hks h.inner

theorem AInv.replace {s : St P} {L q : Nat} {ks : List (String × P)} (h : AInv s L) (hq : q ∈ keysOf s.aggs)
    (hks : (ks.map (·.1)).Nodup) (hopen : ks ≠ [] → L < q) : AInv { s with aggs := setB s.aggs q ks } L :=
  h.setBucket hks hopen h.sorted h.tsNodup (fun _ => (or_iff_right_of_imp fun hb => hb ▸ (h.same q).mpr hq).symm) _

theorem AInv.insert {s : St P} {L q : Nat} {ks : List (String × P)} {tl : List Nat} (h : AInv s L) (hq : q ∉ keysOf s.aggs)
    (hks : (ks.map (·.1)).Nodup) (hopen : ks ≠ [] → L < q) (hp : tl.Perm (q :: s.tsList)) (hs : tl.Pairwise (· ≤ ·))
    (n : Nat) : AInv ⟨s.aggs ++ [(q, ks)], tl, n⟩ L := by
  rw [← setB_of_not_mem hq]
  have hnd := hp.nodup_iff.mpr (List.nodup_cons.mpr ⟨fun hqt => hq ((h.same q).mp hqt), h.tsNodup⟩)
  exact h.setBucket hks hopen hs hnd (fun _ => hp.mem_iff.trans List.mem_cons) n

theorem addOrCreate_inv (isOpen : Bool) (mk : P) (upd : P → P) (s : St P) (key : String) (q L : Nat)
    (h : AInv s L) (hopen : isOpen = true → L < q) : AInv (addOrCreate isOpen mk upd s key q) L := by
  unfold addOrCreate
  cases hl : lookupB s.aggs q with
  | some ks =>
    have hm := lookupB_some_mem hl
    dsimp only
    cases hf : ks.find? (·.1 == key) with
    | some e =>
      refine h.replace (mem_keysOf hm) ?_ (fun _ => h.opened q ks hm (by rintro rfl; cases hf))
      rw [Assoc.map_fst_overwrite]
      exact h.inner q ks hm
    | none =>
      cases isOpen with
      | false => exact ⟨h.sorted, h.tsNodup, h.kNodup, h.same, h.opened, h.inner⟩
      | true =>
        refine h.replace (mem_keysOf hm) ?_ (fun _ => hopen rfl)
        rw [List.map_append, List.nodup_append]
        refine ⟨h.inner q ks hm, by simp, fun a ha b hb => ?_⟩
        obtain ⟨e, he, rfl⟩ := List.mem_map.mp ha
        obtain rfl : b = key := by simpa using hb
        simpa using List.find?_eq_none.mp hf e he
  | none =>
    have hq := lookupB_none_iff.mp hl
    obtain ⟨hp, hs⟩ := tsList_insert q h.sorted
    cases isOpen with
    | true => exact h.insert hq (by simp) (fun _ => hopen rfl) hp hs _
    | false => exact h.insert (ks := []) hq .nil (fun hne => absurd rfl hne) hp hs _

/-- on a list sorted by `R`, along which `p` is downward closed, `takeWhile p` takes exactly the elements with `p`, and what is left has none -/
theorem takeWhile_eq_filter {α : Type} {R : α → α → Prop} {p : α → Bool} (hp : ∀ a b, R a b → p b = true → p a = true) :
    ∀ {l : List α}, l.Pairwise R →
      l.takeWhile p = l.filter p ∧ l.drop (l.takeWhile p).length = l.filter (fun a => !p a)
  | [], _ => ⟨rfl, rfl⟩
  | a :: t, h => by
    obtain ⟨hat, ht⟩ := List.pairwise_cons.mp h
    by_cases ha : p a = true
    · simpa [ha] using takeWhile_eq_filter hp ht
    · have : ∀ b ∈ a :: t, ¬ p b = true := by
        intro b hb
        rcases List.mem_cons.mp hb with rfl | hb
        · exact ha
        · exact fun hb' => ha (hp a b (hat b hb) hb')
      rw [List.takeWhile_cons_of_neg ha, List.filter_eq_nil_iff.mpr this]
      exact ⟨rfl, (List.filter_eq_self.mpr (by simpa using this)).symm⟩

/-- Under the invariant a flush is three filters: it emits the buckets up to the cutoff, and keeps those above it in the
    timestamp list and in the map. -/
theorem flush_eq (fl : P → Option R) {s : St P} {L : Nat} (h : AInv s L) (C : Nat) :
    flush fl s C =
      ({ s with aggs := s.aggs.filter (C < ·.1), tsList := s.tsList.filter (C < ·) },
       (s.tsList.filter (· ≤ C)).flatMap fun ts => emitBucket fl ts ((lookupB s.aggs ts).getD [])) := by
  obtain ⟨hdue, hrest⟩ :=
    takeWhile_eq_filter (R := (· ≤ ·)) (p := (· ≤ C)) (fun a b hab hb => by simp at hb ⊢; omega) h.sorted
  have hnot : ∀ b, (!decide (b ≤ C)) = decide (C < b) := fun b => by simp only [← decide_not, Nat.not_le]
  -- every key of the map is in the timestamp list, so "not among the due ones" means "above the cutoff"
  have hkeep : ∀ e ∈ s.aggs, (!(s.tsList.filter (· ≤ C)).contains e.1) = decide (C < e.1) := by
    intro e he
    have : e.1 ∈ s.tsList := (h.same e.1).mpr (mem_keysOf (ks := e.2) he)
    simp [this, ← hnot]
  unfold flush
  dsimp only
  rw [hrest, hdue, List.filter_congr hkeep, funext hnot]

/-- the order in which emissions leave: bucket by bucket in ascending order, within a bucket key by key -/
def Em.Before (a b : Em R) : Prop := a.ts < b.ts ∨ a.ts = b.ts ∧ a.key ≠ b.key

theorem Em.Before.le {a b : Em R} (h : a.Before b) : a.ts ≤ b.ts := by
  rcases h with h | h <;> omega

theorem Em.Before.distinct {a b : Em R} (h : a.Before b) : ¬ (a.ts = b.ts ∧ a.key = b.key) := by
  rintro ⟨ht, hk⟩
  rcases h with h | h
  · omega
  · exact h.2 hk

theorem mem_emitBucket {fl : P → Option R} {ts : Nat} {ks : List (String × P)} {e : Em R}
    (h : e ∈ emitBucket fl ts ks) : e.ts = ts ∧ e.key ∈ ks.map (·.1) := by
  obtain ⟨⟨k, p⟩, hm, he⟩ := List.mem_filterMap.mp h
  obtain ⟨r, _, rfl⟩ := Option.map_eq_some_iff.mp he
  exact ⟨rfl, List.mem_map.mpr ⟨_, hm, rfl⟩⟩

theorem emitBucket_pairwise {fl : P → Option R} {ts : Nat} {ks : List (String × P)} (h : (ks.map (·.1)).Nodup) :
    (emitBucket fl ts ks).Pairwise Em.Before := by
  refine List.pairwise_filterMap.mpr ((List.pairwise_map.mp h).imp fun hab x hx y hy => ?_)
  obtain ⟨_, _, rfl⟩ := Option.map_eq_some_iff.mp hx
  obtain ⟨_, _, rfl⟩ := Option.map_eq_some_iff.mp hy
  exact .inr ⟨rfl, hab⟩

theorem AInv.bucket {s : St P} {L : Nat} (h : AInv s L) (b : Nat) :
    (((lookupB s.aggs b).getD []).map (·.1)).Nodup ∧ ((lookupB s.aggs b).getD [] ≠ [] → L < b) := by
  cases hl : lookupB s.aggs b with
  | none => exact ⟨.nil, fun hne => absurd rfl hne⟩
  | some ks => exact ⟨h.inner b ks (lookupB_some_mem hl), h.opened b ks (lookupB_some_mem hl)⟩

theorem flush_strict (fl : P → Option R) {s : St P} {L : Nat} (h : AInv s L) (C : Nat) :
    AInv (flush fl s C).1 (max L C) ∧ (∀ e ∈ (flush fl s C).2, L < e.ts ∧ e.ts ≤ C) ∧
    (flush fl s C).2.Pairwise Em.Before := by
  rw [flush_eq fl h]
  refine ⟨{ sorted := h.sorted.sublist List.filter_sublist
            tsNodup := h.tsNodup.sublist List.filter_sublist
            kNodup := (List.filter_sublist.map _).nodup h.kNodup
            same := fun b => ?_
            opened := fun b ks hm hne => ?_
            inner := fun b ks hm => h.inner b ks (List.mem_filter.mp hm).1 }, fun e he => ?_, ?_⟩
  · show b ∈ List.filter _ _ ↔ b ∈ keysOf (List.filter _ _)
    rw [keysOf_filter _ (C < ·), List.mem_filter, List.mem_filter, h.same]
  · obtain ⟨hm, hk⟩ := List.mem_filter.mp hm
    have := h.opened b ks hm hne
    have : C < b := of_decide_eq_true hk
    omega
  · -- an emission comes from a due bucket that is still open
    obtain ⟨b, hb, heb⟩ := List.mem_flatMap.mp he
    obtain ⟨rfl, hk⟩ := mem_emitBucket heb
    exact ⟨(h.bucket e.ts).2 (by intro h0; rw [h0] at hk; cases hk), of_decide_eq_true (List.mem_filter.mp hb).2⟩
  · -- the due buckets are strictly ascending, and in each the keys differ
    have hlt : (s.tsList.filter (· ≤ C)).Pairwise (· < ·) :=
      ((h.sorted.and h.tsNodup).imp fun hab => Nat.lt_of_le_of_ne hab.1 hab.2).sublist List.filter_sublist
    refine List.pairwise_flatMap.mpr ⟨fun b _ => emitBucket_pairwise (h.bucket b).1, hlt.imp fun hab x hx y hy => .inl ?_⟩
    rw [(mem_emitBucket hx).1, (mem_emitBucket hy).1]
    exact hab

theorem flush_spec (fl : P → Option R) (s : St P) (L C : Nat) (h : AInv s L) :
    AInv (flush fl s C).1 (max L C) ∧
    (∀ e ∈ (flush fl s C).2, L < e.ts ∧ e.ts ≤ C) ∧
    (flush fl s C).2.Pairwise (fun a b => ¬ (a.ts = b.ts ∧ a.key = b.key)) :=
  have ⟨hinv, hin, hpw⟩ := flush_strict fl h C
  ⟨hinv, hin, hpw.imp Em.Before.distinct⟩

/-- events as the `run()` loop sees them: a matched point (with the threshold `now - wait` read at processing time),
    or a tick (with its cutoff `tick - wait`) -/
inductive Ev (P : Type) where
  | point (mk : P) (upd : P → P) (key : String) (q : Nat) (thr : Nat)
  | tick (cutoff : Nat)

def stepG (fl : P → Option R) (s : St P) : Ev P → St P × List (Em R)
  | .point mk upd key q thr => (addOrCreate (decide (q > thr)) mk upd s key q, [])
  | .tick C => flush fl s C

def runG (fl : P → Option R) : St P → List (Em R) → List (Ev P) → List (Em R)
  | _, acc, [] => acc
  | s, acc, e :: es => runG fl (stepG fl s e).1 (acc ++ (stepG fl s e).2) es

/-- the clock never runs backwards: a point is processed no earlier than any tick before it -/
def ClockOK : Nat → List (Ev P) → Prop
  | _, [] => True
  | L, .point _ _ _ _ thr :: es => L ≤ thr ∧ ClockOK L es
  | L, .tick C :: es => ClockOK (max L C) es

def Distinct (l : List (Em R)) : Prop := l.Pairwise (fun a b => ¬ (a.ts = b.ts ∧ a.key = b.key))

theorem runG_acc (fl : P → Option R) (s : St P) (acc : List (Em R)) (es : List (Ev P)) :
    runG fl s acc es = acc ++ runG fl s [] es := by
  induction es generalizing s acc with
  | nil => simp [runG]
  | cons e es ih => rw [runG, ih, runG, ih _ ([] ++ _), List.nil_append, List.append_assoc]

theorem runG_cons (fl : P → Option R) (s : St P) (e : Ev P) (es : List (Ev P)) :
    runG fl s [] (e :: es) = (stepG fl s e).2 ++ runG fl (stepG fl s e).1 [] es := by
  rw [runG, runG_acc, List.nil_append]

/-- From a state that has flushed up to `L`, under a clock that does not run backwards, everything still to come lies
    above `L` and leaves in order. -/
theorem runG_before (fl : P → Option R) {es : List (Ev P)} {s : St P} {L : Nat} (h : AInv s L) (hck : ClockOK L es) :
    (∀ e ∈ runG fl s [] es, L < e.ts) ∧ (runG fl s [] es).Pairwise Em.Before := by
  induction es generalizing s L with
  | nil => exact ⟨fun _ he => (nomatch he), .nil⟩
  | cons e es ih =>
    rw [runG_cons]
    cases e with
    | point mk upd key q thr =>
      have hthr : L ≤ thr := hck.1
      exact ih (addOrCreate_inv _ mk upd s key q L h (by intro ho; simp at ho; omega)) hck.2
    | tick C =>
      obtain ⟨hinv, hin, hpw⟩ := flush_strict fl h C
      obtain ⟨ihin, ihpw⟩ := ih hinv hck
      refine ⟨fun e he => ?_, List.pairwise_append.mpr ⟨hpw, ihpw, fun a ha b hb => .inl ?_⟩⟩
      · rcases List.mem_append.mp he with he | he
        · exact (hin e he).1
        · have := ihin e he; omega
      · have := (hin a ha).2
        have := ihin b hb
        omega

/-- **C10 core (no double emission).** Starting empty, under a clock that does not run backwards, no `(bucket, key)` is
    ever emitted twice, over any history of points and ticks, for any processor. -/
theorem emit_once (fl : P → Option R) (es : List (Ev P)) (h : ClockOK 0 es) : Distinct (runG fl {} [] es) :=
  (runG_before fl .empty h).2.imp Em.Before.distinct

#print axioms emit_once

/-- **C10 (order).** Over the whole run the emitted bucket starts never decrease. -/
theorem emit_ascending (fl : P → Option R) (es : List (Ev P)) (h : ClockOK 0 es) :
    (runG fl {} [] es).Pairwise (fun a b => a.ts ≤ b.ts) :=
  (runG_before fl .empty h).2.imp Em.Before.le

end Crng.AggCore
