import Crng.BufWriter
namespace Crng.BW

/-- bytes the writer has taken responsibility for and not lost: socket then buffer -/
def W.stream (w : W) : Bytes := w.sock ++ w.buf

theorem under_spec (w : W) (p : Bytes) :
    (under w p).w = { w with sock := w.sock ++ p.take (under w p).n, script := w.script.tail } ∧
    (under w p).n ≤ p.length := by
  unfold under
  split
  · next h => simp [h]
  · next o rest h => cases o <;> simp [h, Nat.min_le_right]

theorem under_of_script_nil (w : W) (p : Bytes) (h : w.script = []) :
    under w p = ⟨{ w with sock := w.sock ++ p }, p.length, false⟩ := by
  simp [under, h]

/-- on a healthy connection (no scripted failures) the underlying writer takes everything, without error -/
theorem under_healthy (w : W) (p : Bytes) (h : w.script = []) : (under w p).n = p.length ∧ (under w p).e = false ∧ (under w p).w.script = [] := by
  rw [under_of_script_nil w p h]
  exact ⟨rfl, rfl, h⟩

theorem stream_buf_append (w : W) (p : Bytes) : ({ w with buf := w.buf ++ p } : W).stream = w.stream ++ p :=
  (List.append_assoc ..).symm

theorem flush_stream (w : W) : (flush w).1.stream = w.stream := by
  have hw := (under_spec w w.buf).1
  unfold flush
  split
  · rfl
  split
  · rfl
  dsimp only
  split
  · -- short or failed: the unwritten part `w.buf.drop n` stays in the buffer
    rw [hw]; simp [W.stream]
  · next hc =>
    rw [Bool.or_eq_true, not_or, decide_eq_true_eq, Nat.not_lt] at hc
    rw [hw]; simp [W.stream, List.take_of_length_le hc.2]

theorem flush_cap (w : W) : (flush w).1.cap = w.cap := by
  have hw := (under_spec w w.buf).1
  unfold flush
  split
  · rfl
  split
  · rfl
  dsimp only
  split <;> rw [hw]

/-- `r` is a state of the write loop started from `w`, `p`, `nn`: a prefix `a` of `p` has been moved to the
    stream and counted, the rest is kept -/
def Consumed (w : W) (p : Bytes) (nn : Nat) (r : LR) : Prop :=
  ∃ a, p = a ++ r.p ∧ r.nn = nn + a.length ∧ r.w.stream = w.stream ++ a

theorem Consumed.refl (w : W) (p : Bytes) (nn : Nat) : Consumed w p nn ⟨w, p, nn⟩ :=
  ⟨[], by simp⟩

theorem Consumed.step {w w' : W} {p : Bytes} {nn n : Nat} {r : LR} (hn : n ≤ p.length)
    (hs : w'.stream = w.stream ++ p.take n) (h : Consumed w' (p.drop n) (nn + n) r) : Consumed w p nn r := by
  obtain ⟨a, hp, hnn, hst⟩ := h
  refine ⟨p.take n ++ a, ?_, ?_, ?_⟩
  · rw [List.append_assoc, ← hp, List.take_append_drop]
  · rw [hnn, List.length_append, List.length_take, Nat.min_eq_left hn, Nat.add_assoc]
  · rw [hst, hs, List.append_assoc]

/-- the loop neither loses, duplicates nor reorders bytes -/
theorem writeLoop_stream (fuel : Nat) (w : W) (p : Bytes) (nn : Nat) :
    Consumed w p nn (writeLoop fuel w p nn) := by
  fun_induction writeLoop fuel w p nn with
  | case1 w p nn => exact .refl w p nn
  | case2 fuel w p nn _ hemp r ih =>
    -- empty buffer: `p` goes straight to the underlying writer
    obtain ⟨hw, hn⟩ := under_spec w p
    refine .step hn ?_ ih
    have hb : w.buf = [] := by simpa using hemp
    simp [W.stream, r, hw, hb]
  | case3 fuel w p nn _ _ n ih =>
    -- fill the buffer, flush
    refine .step (Nat.min_le_right ..) ?_ ih
    rw [flush_stream]
    exact stream_buf_append w _
  | case4 fuel w p nn _ => exact .refl w p nn

/-- `Write(p)` appends exactly the accepted prefix `p.take nn` to the stream -/
theorem write_stream (w : W) (p : Bytes) :
    (write w p).1.stream = w.stream ++ p.take (write w p).2.1 ∧ (write w p).2.1 ≤ p.length ∧
    ((write w p).2.2 = false → (write w p).2.1 = p.length) := by
  obtain ⟨a, hp, hnn, hs⟩ := writeLoop_stream (2 * p.length + 4) w p 0
  unfold write
  generalize writeLoop (2 * p.length + 4) w p 0 = r at *
  rw [Nat.zero_add] at hnn
  cases he : r.w.err
  · -- no error: the rest of `p` is buffered, so all of `p` is accepted
    simp only [he, Bool.false_eq_true, if_false]
    have hlen : r.nn + r.p.length = p.length := by
      rw [hnn, ← List.length_append, ← hp]
    refine ⟨?_, Nat.le_of_eq hlen, fun _ => hlen⟩
    show ({ r.w with buf := r.w.buf ++ r.p } : W).stream = _
    rw [stream_buf_append, hlen, List.take_length, hs, List.append_assoc, ← hp]
  · simp only [he, if_true]
    subst hp
    exact ⟨by rw [hs, hnn, List.take_left], by simp [hnn], by simp⟩

#print axioms write_stream

/-- run a sequence of writes and flushes; returns the final writer and, per op, what was accepted -/
def runOps : W → List Op → W × Bytes
  | w, [] => (w, [])
  | w, .write p :: ops => let r := write w p; let t := runOps r.1 ops; (t.1, p.take r.2.1 ++ t.2)
  | w, .flush :: ops => runOps (flush w).1 ops

/-- **C05 core.** For any buffer size, any interleaving of writes and flushes, and any behaviour of the socket
    (full, short or failing writes), the socket bytes followed by the buffered bytes are exactly the accepted bytes, in order:
    nothing is lost, duplicated, torn or reordered. -/
theorem stream_invariant : ∀ (ops : List Op) (w : W),
    (runOps w ops).1.stream = w.stream ++ (runOps w ops).2 := by
  intro ops w
  fun_induction runOps w ops with
  | case1 w => exact (List.append_nil _).symm
  | case2 w p ops r t ih => rw [ih, (write_stream w p).1, List.append_assoc]
  | case3 w ops ih => rw [ih, flush_stream w]

theorem sock_prefix_stream (ops : List Op) (w : W) :
    (runOps w ops).1.sock <+: w.stream ++ (runOps w ops).2 :=
  ⟨_, stream_invariant ops w⟩

/-- what reached the socket is always a prefix of what was accepted -/
theorem socket_prefix (ops : List Op) (w : W) (h : w.buf = [] ∧ w.sock = []) :
    (runOps w ops).1.sock <+: (runOps w ops).2 := by
  simpa [W.stream, h.1, h.2] using sock_prefix_stream ops w

#print axioms stream_invariant
/-! healthy connection: the underlying writer takes everything (script exhausted), no sticky error -/

def Healthy (w : W) : Prop := w.script = [] ∧ w.err = false

theorem flush_of_healthy (w : W) (h : Healthy w) : flush w = ({ w with sock := w.stream, buf := [] }, false) := by
  unfold flush
  rw [if_neg (by simp [h.2])]
  split
  · next hb =>
    -- nothing buffered: `flush` returns `w` itself, which is the right-hand side since `w.sock ++ [] = w.sock`
    rw [List.isEmpty_iff] at hb
    obtain ⟨cap, buf, err, sock, script⟩ := w
    simp [W.stream, show buf = [] from hb]
  · rw [under_of_script_nil w w.buf h.1]
    simp [W.stream]

theorem Healthy.flush {w : W} (h : Healthy w) : Healthy (flush w).1 := by
  rw [flush_of_healthy w h]
  exact h

theorem writeLoop_of_healthy (fuel : Nat) (w : W) (p : Bytes) (nn : Nat) (h : Healthy w) :
    Healthy (writeLoop fuel w p nn).w := by
  fun_induction writeLoop fuel w p nn with
  | case1 => exact h
  | case2 fuel w p nn _ _ r ih =>
    refine ih ?_
    simp only [r, under_of_script_nil w p h.1]
    exact ⟨h.1, rfl⟩
  | case3 fuel w p nn _ _ n ih =>
    have hb : Healthy { w with buf := w.buf ++ p.take n } := h
    exact ih hb.flush
  | case4 => exact h

theorem write_of_healthy (w : W) (p : Bytes) (h : Healthy w) :
    Healthy (write w p).1 ∧ (write w p).2.1 = p.length ∧ (write w p).2.2 = false := by
  have hl := writeLoop_of_healthy (2 * p.length + 4) w p 0 h
  have he : (write w p).2.2 = false := by simp [write, hl.2]
  refine ⟨?_, (write_stream w p).2.2 he, he⟩
  simp only [write, hl.2, Bool.false_eq_true, if_false]
  exact ⟨hl.1, rfl⟩

/-- the write payloads of an op sequence, in order -/
def payloads : List Op → Bytes
  | [] => []
  | .write p :: ops => p ++ payloads ops
  | .flush :: ops => payloads ops

theorem runOps_of_healthy (ops : List Op) (w : W) (h : Healthy w) :
    Healthy (runOps w ops).1 ∧ (runOps w ops).2 = payloads ops := by
  fun_induction runOps w ops with
  | case1 w => exact ⟨h, rfl⟩
  | case2 w p ops r t ih =>
    obtain ⟨h1, h2, _⟩ := write_of_healthy w p h
    obtain ⟨i1, i2⟩ := ih h1
    exact ⟨i1, by simp only [r, t, payloads, i2, h2, List.take_length]⟩
  | case3 w ops ih => exact ih h.flush

theorem runOps_flush_of_healthy (ops : List Op) (w : W) (h : Healthy w) :
    (flush (runOps w ops).1).1.sock = w.stream ++ payloads ops ∧ (flush (runOps w ops).1).2 = false := by
  obtain ⟨h1, h2⟩ := runOps_of_healthy ops w h
  rw [flush_of_healthy _ h1, ← h2, ← stream_invariant]
  exact ⟨rfl, rfl⟩

/-- **C05, healthy connection.** Whatever the buffer size and however writes and flushes interleave, after a final
    flush the endpoint has received exactly the written payloads, in order, each once, and no error was raised. -/
theorem healthy_stream (ops : List Op) (w : W) (h : Healthy w) (hb : w.buf = []) (hs : w.sock = []) :
    (flush (runOps w ops).1).1.sock = payloads ops ∧ (flush (runOps w ops).1).2 = false := by
  simpa [W.stream, hb, hs] using runOps_flush_of_healthy ops w h

/-- what `Conn.Write` does per line in plain mode, followed by `k` flush ticks -/
def lineOps : List (Bytes × Nat) → List Op
  | [] => []
  | (l, k) :: t => .write l :: .write [10] :: (List.replicate k .flush ++ lineOps t)

theorem payloads_append (a b : List Op) : payloads (a ++ b) = payloads a ++ payloads b := by
  induction a with
  | nil => rfl
  | cons op a ih => cases op <;> simp [payloads, ih, List.append_assoc]

theorem payloads_flushes (k : Nat) : payloads (List.replicate k .flush) = [] := by
  induction k with
  | zero => rfl
  | succ k ih => simp [List.replicate_succ, payloads, ih]

theorem payloads_lineOps (ls : List (Bytes × Nat)) : payloads (lineOps ls) = ls.flatMap (fun l => l.1 ++ [10]) := by
  fun_induction lineOps ls with
  | case1 => rfl
  | case2 l k t ih => simp [payloads, payloads_append, payloads_flushes, ih]

/-- plain mode: the endpoint receives each line once, in hand-off order, each terminated by one newline -/
theorem healthy_lines (ls : List (Bytes × Nat)) (cap : Nat) :
    (flush (runOps { cap := cap } (lineOps ls)).1).1.sock = ls.flatMap (fun l => l.1 ++ [10]) := by
  rw [(healthy_stream (lineOps ls) { cap := cap } ⟨rfl, rfl⟩ rfl rfl).1, payloads_lineOps]

end Crng.BW
